import ZwVerif.Model.Dwarf
/-!
DIE trees: `preorderList` and `parentTableList` are `flatMap`s of `preorder` and `parentTable`, with the membership
views that follow, and induction over a DIE by way of its children; what every cooked child is (`mem_cookedChildren`);
`exists_fuel` for the statements that say a fuel-indexed function computes a relation.
-/
namespace ZwVerif.Dwarf

theorem preorder_eq (d : Die) : preorder d = d :: preorderList d.children := by
  cases d; rw [preorder, Die.children]

theorem parentTable_eq (par : Option Nat) (d : Die) :
    parentTable par d = (d.off, par) :: parentTableList (some d.off) d.children := by
  cases d; rw [parentTable, Die.off, Die.children]

theorem preorderList_eq_flatMap (cs : List Die) : preorderList cs = cs.flatMap preorder := by
  induction cs with
  | nil => rfl
  | cons c cs ih => rw [preorderList, ih, List.flatMap_cons]

theorem self_mem_preorder (d : Die) : d ∈ preorder d := by
  rw [preorder_eq]; exact List.mem_cons_self

theorem mem_preorderList {rs : List Die} {d : Die} : d ∈ preorderList rs ↔ ∃ r ∈ rs, d ∈ preorder r := by
  rw [preorderList_eq_flatMap, List.mem_flatMap]

theorem mem_preorder {r d : Die} : d ∈ preorder r ↔ d = r ∨ ∃ x ∈ r.children, d ∈ preorder x := by
  rw [preorder_eq, List.mem_cons, mem_preorderList]

theorem parentTableList_eq_flatMap (par : Option Nat) (cs : List Die) :
    parentTableList par cs = cs.flatMap (parentTable par) := by
  induction cs with
  | nil => rfl
  | cons c cs ih => rw [parentTableList, ih, List.flatMap_cons]

theorem mem_parentTableList {par : Option Nat} {cs : List Die} {e : Nat × Option Nat} :
    e ∈ parentTableList par cs ↔ ∃ c ∈ cs, e ∈ parentTable par c := by
  rw [parentTableList_eq_flatMap, List.mem_flatMap]

theorem die_induction {P : Die → Prop} (step : ∀ d, (∀ c ∈ d.children, P c) → P d) (d : Die) : P d :=
  Die.rec (motive_2 := fun cs => ∀ c ∈ cs, P c) (fun o t h a cs ih => step (.mk o t h a cs) ih)
    (fun _ h => nomatch h) (fun _ _ hc hcs => List.forall_mem_cons.mpr ⟨hc, hcs⟩) d

/-- what `child` yields in cooked mode is no resolvable import, and is reached along a chain that extends the
    parent's -/
theorem mem_cookedChildren (f : Forest) (fuel : Nat) (d : CDie) :
    ∀ c ∈ cookedChildren f fuel d, importTarget f c.die = none ∧ ∃ pre, c.chain = pre ++ d.chain := by
  induction fuel generalizing d with
  | zero => simp [cookedChildren]
  | succ n ih =>
    intro c hc
    simp only [cookedChildren, List.mem_flatMap] at hc
    obtain ⟨x, _, hx⟩ := hc
    split at hx
    · obtain ⟨hi, pre, hp⟩ := ih _ c hx
      exact ⟨hi, pre ++ [x.off], by simp [hp]⟩
    · rw [List.mem_singleton.mp hx]
      exact ⟨‹_›, [], rfl⟩

/-- Enough fuel, in the shape the fuel-indexed functions of the model ask for it: one unit for the step at hand and `n`
    for what it calls. -/
theorem exists_fuel {P : Nat → Prop} (n : Nat) (h : ∀ k, n ≤ k → P (k + 1)) : ∃ m, ∀ fuel, m ≤ fuel → P fuel :=
  ⟨n + 1, fun fuel hf => by
    obtain ⟨k, rfl⟩ := Nat.exists_eq_succ_of_ne_zero (Nat.ne_of_gt (Nat.lt_of_lt_of_le n.succ_pos hf))
    exact h k (Nat.le_of_succ_le_succ hf)⟩

end ZwVerif.Dwarf
