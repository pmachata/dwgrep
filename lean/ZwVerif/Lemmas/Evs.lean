import ZwVerif.Model.Sem
/-!
Basic facts about event streams.  A stream is result frames among noise (soft errors, marks,
at most one hard error, which ends it); `cutHard`, `Evs.frames`, `firstResult`, `restoreEnv`
and `mapFrames` are described here by what they do to a frame and to noise, so that no proof
has to go through the four kinds of event again.
-/
namespace ZwVerif

def Ev.isHard : Ev → Bool | .hard _ => true | _ => false
def Ev.isFrame : Ev → Bool | .frame _ => true | _ => false

def NoHard (es : Evs) : Prop := ∀ e ∈ es, e.isHard = false

def NoFrame (es : Evs) : Prop := ∀ e ∈ es, e.isFrame = false

theorem cutHard_cons (e : Ev) (es : Evs) :
    cutHard (e :: es) = if e.isHard then [e] else e :: cutHard es := by
  cases e <;> rfl

theorem cutHard_append_noHard (a b : Evs) (h : NoHard a) : cutHard (a ++ b) = a ++ cutHard b := by
  induction a with
  | nil => rfl
  | cons e es ih =>
    obtain ⟨he, hes⟩ := List.forall_mem_cons.mp h
    simp [cutHard_cons, he, ih hes]

theorem cutHard_of_noHard (es : Evs) (h : NoHard es) : cutHard es = es := by
  simpa [cutHard] using cutHard_append_noHard es [] h

theorem cutHard_cutHard_append (a b : Evs) : cutHard (cutHard a ++ b) = cutHard (a ++ b) := by
  induction a with
  | nil => rfl
  | cons e es ih => by_cases he : e.isHard <;> simp [cutHard_cons, he, ih]

theorem cutHard_idem (es : Evs) : cutHard (cutHard es) = cutHard es := by
  simpa using cutHard_cutHard_append es []

theorem cutHard_sublist (es : Evs) : (cutHard es).Sublist es := by
  induction es with
  | nil => exact .slnil
  | cons e es ih =>
    rw [cutHard_cons]
    split
    · exact (List.nil_sublist es).cons_cons e
    · exact ih.cons_cons e

theorem mem_cutHard {es : Evs} {e : Ev} (h : e ∈ cutHard es) : e ∈ es := (cutHard_sublist es).subset h

theorem NoFrame.nil : NoFrame [] := List.forall_mem_nil _

theorem NoFrame.cons {e : Ev} {es : Evs} (he : e.isFrame = false) (h : NoFrame es) : NoFrame (e :: es) :=
  List.forall_mem_cons.mpr ⟨he, h⟩

theorem NoFrame.append {a b : Evs} (ha : NoFrame a) (hb : NoFrame b) : NoFrame (a ++ b) :=
  fun e he => (List.mem_append.mp he).elim (ha e) (hb e)

theorem NoFrame.cutHard {es : Evs} (h : NoFrame es) : NoFrame (cutHard es) := fun e he => h e (mem_cutHard he)

theorem NoFrame.filter_eq_nil {es : Evs} (h : NoFrame es) : es.filter Ev.isFrame = [] :=
  List.filter_eq_nil_iff.mpr fun e he => by simp [h e he]

theorem noFrame_filter {p : Ev → Bool} (es : Evs) (hp : ∀ f, p (.frame f) = false) : NoFrame (es.filter p) := by
  intro e he
  cases e with
  | frame f => simp [hp] at he
  | _ => rfl

theorem firstResult_pre_noFrame (es : Evs) : NoFrame (firstResult es).1 := by
  induction es with
  | nil => exact .nil
  | cons e es ih =>
    cases e with
    | frame f => exact .nil
    | hard m => exact .cons rfl .nil
    | _ => exact .cons rfl ih

theorem NoFrame.mem_append_of_isFrame {a b : Evs} (h : NoFrame a) {e : Ev} (he : e ∈ a ++ b)
    (hf : e.isFrame = true) : e ∈ b :=
  (List.mem_append.mp he).resolve_left fun ha => Bool.noConfusion ((h e ha).symm.trans hf)

/-- events that hold no frame, perhaps cut short, perhaps followed by `f`: as far as frames go,
    this is `f` at most once and nothing else -/
theorem eq_frame_of_sublist {l evs : Evs} {f : Frame} (hl : l.Sublist (evs ++ [.frame f])) (h : NoFrame evs) :
    ∀ e ∈ l, e.isFrame = true → e = .frame f :=
  fun _ he hf => List.mem_singleton.mp (h.mem_append_of_isFrame (hl.subset he) hf)

theorem filter_isFrame_le_one {l evs : Evs} {f : Frame} (hl : l.Sublist (evs ++ [.frame f])) (h : NoFrame evs) :
    (l.filter Ev.isFrame).length ≤ 1 := by
  simpa [h.filter_eq_nil, List.filter_cons, Ev.isFrame] using (hl.filter Ev.isFrame).length_le

@[simp] theorem Evs.frames_nil : Evs.frames [] = [] := rfl

@[simp] theorem Evs.frames_cons (e : Ev) (es : Evs) :
    Evs.frames (e :: es) = match e with | .frame f => f :: Evs.frames es | _ => Evs.frames es := by
  cases e <;> rfl

@[simp] theorem Evs.frames_append (a b : Evs) : Evs.frames (a ++ b) = Evs.frames a ++ Evs.frames b :=
  List.filterMap_append

theorem NoFrame.frames_eq_nil {es : Evs} (h : NoFrame es) : Evs.frames es = [] :=
  List.filterMap_eq_nil_iff.mpr fun e he => by
    cases e with
    | frame f => cases h _ he
    | _ => rfl

theorem Evs.frames_restoreEnv (env : List (Bytes × Val)) (es : Evs) :
    Evs.frames (restoreEnv env es) = (Evs.frames es).map ({ · with env := env }) := by
  induction es with
  | nil => rfl
  | cons e es ih =>
    cases e with
    | frame f => exact congrArg (_ :: ·) ih
    | _ => exact ih

theorem mapFrames_append (g : Frame → Evs) (a b : Evs) :
    mapFrames g (a ++ b) = cutHard (mapFrames g a ++ (b.flatMap fun | .frame f => g f | e => [e])) := by
  simp only [mapFrames, List.flatMap_append, cutHard_cutHard_append]
  rfl

theorem mapFrames_singleton (g : Frame → Evs) (f : Frame) : mapFrames g [.frame f] = cutHard (g f) := by
  simp [mapFrames]

theorem frame_mem_mapFrames {g : Frame → Evs} {es : Evs} {x : Frame} (h : .frame x ∈ mapFrames g es) :
    ∃ f, .frame f ∈ es ∧ .frame x ∈ g f := by
  obtain ⟨e, he, hx⟩ := List.mem_flatMap.mp (mem_cutHard h)
  cases e with
  | frame f => exact ⟨f, he, hx⟩
  | _ => cases List.mem_singleton.mp hx

end ZwVerif
