import ZwVerif.Model.Int64
/-! The integer model's theory (C08; C09 uses `lt_iff`, C20Int `neg_exact`): what a word denotes, the values
the operators build (on variables, in the shape the transcription gives them), and from these
each operator by a case split on the program's own tests. -/
namespace ZwVerif
namespace ZInt

def InRange (x : Int) : Prop := -2^63 ≤ x ∧ x < 2^64

/-- `res` is the exact outcome for the mathematical value `x`: the value when
    it is representable, an overflow error exactly when it is not. -/
def Exact (res : Except IntErr ZInt) (x : Int) : Prop :=
  match res with
  | .ok r => r.WF ∧ r.den = x
  | .error e => e = .overflow ∧ ¬ InRange x

def DivSpec (res : Except IntErr ZInt) (a b : Int) (f : Int → Int → Int) : Prop :=
  if b = 0 then res = .error .div0 else Exact res (f a b)

@[simp] theorem Exact_ok (r : ZInt) (x : Int) : Exact (.ok r) x ↔ (r.WF ∧ r.den = x) := Iff.rfl
@[simp] theorem Exact_err (e : IntErr) (x : Int) :
    Exact (.error e) x ↔ (e = .overflow ∧ ¬ InRange x) := Iff.rfl

theorem Exact.of_eq {res : Except IntErr ZInt} {x y : Int} (h : Exact res x) (e : x = y) :
    Exact res y := e ▸ h

theorem Exact.overflow {x : Int} (h : x < -2^63 ∨ 2^64 ≤ x) : Exact (.error .overflow) x :=
  ⟨rfl, by unfold InRange; omega⟩

/-- Case split on a test of the program.  Applying this only unifies, where `split` on the
    transcription of a whole operator is slow. -/
theorem Exact.ite {c : Prop} [Decidable c] {t e : Except IntErr ZInt} {x : Int}
    (ht : c → Exact t x) (he : ¬ c → Exact e x) : Exact (if c then t else e) x := by
  split
  · exact ht ‹_›
  · exact he ‹_›

theorem isNeg_iff (v : ZInt) : v.isNeg = true ↔ v.sign = true ∧ 2^63 ≤ v.u := by
  simp [isNeg]

theorem nonneg_eq (v : ZInt) : v.nonneg = !v.isNeg := by
  simp only [nonneg, isNeg, Bool.not_and, ← Nat.not_le, decide_not]

theorem den_of_isNeg {v : ZInt} (h : v.isNeg = true) : v.den = v.u - 2^64 := if_pos h

theorem den_of_not_isNeg {v : ZInt} (h : v.isNeg = false) : v.den = v.u := by simp [den, h]

theorem den_of_nonneg {v : ZInt} (h : v.nonneg = true) : v.den = v.u :=
  den_of_not_isNeg (by simpa [nonneg_eq] using h)

theorem den_of_unsigned {v : ZInt} (h : v.sign = false) : v.den = v.u :=
  den_of_not_isNeg (by simp [isNeg, h])

theorem den_mk_false (q : Nat) : den ⟨q, false⟩ = q := rfl

theorem den_of_signed {v : ZInt} (h : v.sign = true) : v.den = v.ival := by
  simp [den, ival, isNeg, h]

theorem ival_bounds {v : ZInt} (h : v.WF) : -2^63 ≤ v.ival ∧ v.ival < 2^63 := by
  unfold ival WF at *; omega

theorem ival_of_nonneg {v : ZInt} (h : v.WF) (h0 : 0 ≤ v.ival) : v.ival = v.u := by
  unfold ival WF at *; omega

theorem den_cases (v : ZInt) :
    v.isNeg = true ∧ v.sign = true ∧ 2^63 ≤ v.u ∧ v.den = v.u - 2^64 ∨
    v.isNeg = false ∧ v.den = v.u := by
  cases h : v.isNeg
  · exact .inr ⟨rfl, den_of_not_isNeg h⟩
  · have ⟨hs, hu⟩ := (isNeg_iff v).1 h
    exact .inl ⟨rfl, hs, hu, den_of_isNeg h⟩

theorem den_inRange {z : ZInt} (h : z.WF) : InRange z.den := by
  unfold InRange WF at *
  rcases den_cases z with ⟨-, -, hu, hd⟩ | ⟨-, hd⟩ <;> omega

/-- Since a well-formed value denotes an integer in range, `Exact` is an *iff*: the exact
    value is yielded exactly when it is representable. -/
theorem Exact.ok_of_inRange {res : Except IntErr ZInt} {x : Int} (h : Exact res x)
    (hx : InRange x) : ∃ r, res = .ok r ∧ r.WF ∧ r.den = x := by
  cases res with
  | ok r => exact ⟨r, rfl, h⟩
  | error e => exact absurd hx h.2

theorem Exact.overflow_of_not_inRange {res : Except IntErr ZInt} {x : Int} (h : Exact res x)
    (hx : ¬ InRange x) : res = .error .overflow := by
  cases res with
  | ok r => exact absurd (h.2 ▸ den_inRange h.1) hx
  | error e => rw [h.1]

theorem isNeg_iff_den_neg {v : ZInt} (h : v.WF) : v.isNeg = true ↔ v.den < 0 := by
  unfold WF at h
  rcases den_cases v with ⟨hn, -, -, hd⟩ | ⟨hn, hd⟩ <;>
    simp only [hn, true_iff, Bool.false_eq_true, false_iff] <;> omega

theorem den_eq_zero_iff {v : ZInt} (h : v.WF) : v.den = 0 ↔ v.u = 0 := by
  unfold WF at h
  rcases den_cases v with ⟨-, -, hu, hd⟩ | ⟨-, hd⟩ <;> omega

theorem okU_exact {q : Nat} (h : q < 2^64) : Exact (.ok ⟨q, false⟩) q :=
  ⟨h, den_mk_false q⟩

theorem okS_exact {w : Nat} {i : Int} (hw : w < 2^64) (hi : -2^63 ≤ i ∧ i < 2^63)
    (h : (w : Int) = i ∨ (w : Int) = i + 2^64) : Exact (.ok ⟨w, true⟩) i := by
  refine ⟨hw, (den_of_signed rfl).trans ?_⟩
  simp only [ival]; omega

theorem ofI_exact {i : Int} (h1 : -2^63 ≤ i) (h2 : i < 2^63) : Exact (.ok (ofI i)) i :=
  okS_exact (by omega) ⟨h1, h2⟩ (by omega)

/-- Minus a magnitude, as unary and binary `operator-` and `operator*` produce it: the
    range test, then the two's complement word tagged signed. -/
theorem negU_exact (r : Nat) :
    Exact (if r > 2^63 then .error .overflow else .ok ⟨(2^64 - r) % 2^64, true⟩)
      (-(r : Int)) := by
  refine .ite (fun h => .overflow ?_) fun h => okS_exact (Nat.mod_lt _ (by decide)) ?_ ?_
  · omega
  · omega
  · omega

theorem addU_exact {a b : Nat} (ha : a < 2^64) (hb : b < 2^64) :
    Exact (if (a + b) % 2^64 < a then .error .overflow else .ok ⟨(a + b) % 2^64, false⟩)
      ((a : Int) + b) := by
  refine .ite (fun h => .overflow ?_) fun h => (okU_exact (Nat.mod_lt _ (by decide))).of_eq ?_
  · omega
  · omega

theorem lt_iff (a b : ZInt) (ha : a.WF) (hb : b.WF) : lt a b = true ↔ a.den < b.den := by
  unfold lt
  by_cases hs : a.sign = b.sign
  · rw [if_pos hs]
    cases hsa : a.sign
    · rw [den_of_unsigned hsa, den_of_unsigned (hs ▸ hsa), if_neg Bool.false_ne_true,
        decide_eq_true_iff, Int.ofNat_lt]
    · rw [den_of_signed hsa, den_of_signed (hs ▸ hsa), if_pos rfl, decide_eq_true_iff]
  · rw [if_neg hs]
    unfold WF at *
    rcases den_cases a with ⟨na, sa, ua, da⟩ | ⟨na, da⟩ <;>
      rcases den_cases b with ⟨nb, sb, ub, db⟩ | ⟨nb, db⟩
    · exact absurd (sa.trans sb.symm) hs
    all_goals
      simp only [na, nb, if_true, if_false, Bool.false_eq_true, decide_eq_true_iff, true_iff,
        false_iff]
      omega

/-- For `operator>=`, `operator>` and `operator!=`, each the negation of another comparison. -/
theorem not_iff {x : Bool} {p : Prop} (h : x = true ↔ p) : (!x) = true ↔ ¬ p := by
  rw [Bool.not_eq_true', ← Bool.not_eq_true]
  exact not_congr h

theorem neg_exact (a : ZInt) (h : a.WF) : Exact (neg a) (- a.den) := by
  unfold neg
  cases hs : a.sign
  · rw [den_of_unsigned hs]
    exact negU_exact a.u
  · rw [den_of_signed hs, if_pos rfl, ival]
    unfold WF at h
    refine .ite (fun _ => (okU_exact (by omega)).of_eq (by omega)) fun _ => ?_
    refine .ite (fun _ => okS_exact (by omega) (by omega) (by omega)) fun _ => ?_
    exact (okU_exact (Nat.mod_lt _ (by decide))).of_eq (by omega)

theorem neg_of_isNeg {v : ZInt} (h : v.WF) (hn : v.isNeg = true) :
    neg v = .ok ⟨v.den.natAbs, false⟩ ∧ WF ⟨v.den.natAbs, false⟩ ∧
      (v.den.natAbs : Int) = -v.den := by
  obtain ⟨hs, hu⟩ := (isNeg_iff v).1 hn
  -- a signed word with the top bit set yields an unsigned one; `neg_exact` tells its value
  have ⟨m, e⟩ : ∃ m, neg v = .ok ⟨m, false⟩ := by
    unfold neg
    rw [if_pos hs]
    by_cases h63 : v.u = 2^63
    · exact ⟨_, if_pos h63⟩
    · exact ⟨_, by rw [if_neg h63, if_neg (by omega)]⟩
  have ⟨hw, hd⟩ := e ▸ neg_exact v h
  have : m = v.den.natAbs := by rw [den_mk_false] at hd; omega
  subst this
  exact ⟨e, hw, hd⟩

theorem subF_nn (n : Nat) {v1 v2 : ZInt} (h1 : v1.WF) (h2 : v2.WF)
    (n1 : v1.nonneg = true) (n2 : v2.nonneg = true) :
    Exact (subF (n+1) v1 v2) (v1.den - v2.den) := by
  rw [subF, if_pos ⟨n1, n2⟩, den_of_nonneg n1, den_of_nonneg n2]
  unfold WF at *
  refine .ite (fun _ => (okU_exact (by omega)).of_eq (by omega)) fun _ => ?_
  exact (negU_exact (v2.u - v1.u)).of_eq (by omega)

/-- `v + w` for `w` below zero and `v` of the other signedness, as `operator+` computes it:
    `v - -w`, a difference of two values that are not below zero. -/
theorem addF_isNeg (n : Nat) {v w : ZInt} (hv : v.WF) (hw : w.WF) (hs : ¬ v.sign = w.sign)
    (hn : w.isNeg = true) :
    Exact (match neg w with
      | .error e => .error e
      | .ok nw => subF (n+1) v nw) (v.den + w.den) := by
  have nv : v.nonneg = true := by
    cases h : v.sign
    · simp [nonneg, h]
    · exact absurd (h.trans ((isNeg_iff w).1 hn).1.symm) hs
  obtain ⟨e, hw', d⟩ := neg_of_isNeg hw hn
  rw [e]
  exact (subF_nn n hv hw' nv rfl).of_eq (by rw [den_mk_false, d, Int.sub_neg])

theorem addF_exact (n : Nat) (v1 v2 : ZInt) (h1 : v1.WF) (h2 : v2.WF) :
    Exact (addF (n+2) v1 v2) (v1.den + v2.den) := by
  rw [addF]
  refine .ite (fun hs => ?_) fun hs => ?_
  · cases hs1 : v1.sign
    · rw [den_of_unsigned hs1, den_of_unsigned (hs ▸ hs1)]
      exact addU_exact h1 h2
    · -- both signed: by the signs of the two's complement values
      rw [den_of_signed hs1, den_of_signed (hs ▸ hs1), if_neg (by decide)]
      have i1 := ival_bounds h1
      have i2 := ival_bounds h2
      refine .ite (fun _ => ofI_exact (by omega) (by omega)) fun t1 => ?_
      refine .ite (fun t => ?_) fun t2 => ?_
      · rw [ival_of_nonneg h1 t.1, ival_of_nonneg h2 t.2]
        exact addU_exact h1 h2
      have : v1.ival < 0 ∧ v2.ival < 0 := by omega
      clear t1 t2
      refine .ite (fun _ => .overflow (by omega)) fun _ => ?_
      -- both above `INT64_MIN`: the magnitudes add up without wrap-around
      have hur : ((-v1.ival).toNat + (-v2.ival).toNat) % 2^64
          = (-v1.ival).toNat + (-v2.ival).toNat := Nat.mod_eq_of_lt (by omega)
      simp only [hur, Nat.not_lt.2 (Nat.le_add_right _ _), false_or]
      exact (negU_exact _).of_eq (by omega)
  · refine .ite (fun hn => ?_) fun hn1 => .ite (fun hn => ?_) fun hn2 => ?_
    · exact (addF_isNeg n h2 h1 (Ne.symm hs) hn).of_eq (Int.add_comm _ _)
    · exact addF_isNeg n h1 h2 hs hn
    · rw [den_of_not_isNeg (Bool.not_eq_true _ ▸ hn1),
        den_of_not_isNeg (Bool.not_eq_true _ ▸ hn2)]
      exact addU_exact h1 h2

theorem subF_exact (n : Nat) (v1 v2 : ZInt) (h1 : v1.WF) (h2 : v2.WF) :
    Exact (subF (n+3) v1 v2) (v1.den - v2.den) := by
  by_cases hnn : v1.nonneg = true ∧ v2.nonneg = true
  · exact subF_nn _ h1 h2 hnn.1 hnn.2
  rw [subF, if_neg hnn]
  refine .ite (fun hn => ?_) fun hn => ?_
  · -- `v1 + -v2`
    obtain ⟨e, hw, d⟩ := neg_of_isNeg h2 hn
    rw [e]
    exact (addF_exact n v1 _ h1 hw).of_eq (by rw [den_mk_false, d, Int.sub_eq_add_neg])
  · -- `v2` is not below zero, so `v1` is
    have n2 : v2.isNeg = false := Bool.not_eq_true _ ▸ hn
    have n1 : v1.isNeg = true := by
      rw [nonneg_eq, nonneg_eq, n2] at hnn; simpa using hnn
    obtain ⟨s1, u1⟩ := (isNeg_iff v1).1 n1
    rw [den_of_signed s1, den_of_not_isNeg n2]
    unfold WF at h1 h2
    have e1 : v1.ival = v1.u - 2^64 := if_pos u1
    refine .ite (fun _ => .overflow (by omega)) fun _ => ?_
    have e2 : v2.ival = v2.u := if_neg (by omega)
    exact (ofI_exact (by omega) (by omega)).of_eq (by omega)

theorem add_exact (a b : ZInt) (ha : a.WF) (hb : b.WF) : Exact (add a b) (a.den + b.den) :=
  addF_exact 2 a b ha hb
theorem sub_exact (a b : ZInt) (ha : a.WF) (hb : b.WF) : Exact (sub a b) (a.den - b.den) :=
  subF_exact 1 a b ha hb

/-- The overflow test of `operator*`: dividing the wrapped product gives the other factor
    back exactly when nothing was lost. -/
theorem mul_ovf (a b : Nat) : a ≠ 0 ∧ (a * b) % 2^64 / a ≠ b ↔ 2^64 ≤ a * b := by
  constructor
  · intro ⟨ha, h⟩
    refine Nat.le_of_not_lt fun hlt => h ?_
    rw [Nat.mod_eq_of_lt hlt, Nat.mul_div_cancel_left b (Nat.pos_of_ne_zero ha)]
  · intro h
    have ha : a ≠ 0 := by rintro rfl; omega
    have hr : (a * b) % 2^64 < 2^64 := Nat.mod_lt _ (by decide)
    refine ⟨ha, Nat.ne_of_lt ?_⟩
    rw [Nat.div_lt_iff_lt_mul (Nat.pos_of_ne_zero ha), Nat.mul_comm b a]
    omega

theorem mulU_exact (a b : Nat) : Exact (mulU a b) ((a : Int) * b) := by
  rw [← Int.natCast_mul]
  refine .ite (fun h => .overflow ?_) fun h => (okU_exact (Nat.mod_lt _ (by decide))).of_eq ?_
  · have := (mul_ovf a b).1 h
    omega
  · have := mt (mul_ovf a b).2 h
    omega

theorem mulN_exact (a b : Nat) : Exact (mulN a b) (-((a : Int) * b)) := by
  rw [← Int.natCast_mul]
  refine .ite (fun h => .overflow ?_) fun h => ?_
  · have := (mul_ovf a b).1 h
    omega
  · rw [Nat.mod_eq_of_lt (Nat.lt_of_not_le (mt (mul_ovf a b).2 h))]
    exact negU_exact _

theorem mul_exact (v1 v2 : ZInt) (h1 : v1.WF) (h2 : v2.WF) :
    Exact (mul v1 v2) (v1.den * v2.den) := by
  unfold mul
  -- with the two `isNeg` known, each `simp` runs `operator*`'s own tests (both negative? both non-negative? which one
  -- to swap to the right?) and leaves the arm it ends in
  cases hn1 : v1.isNeg <;> cases hn2 : v2.isNeg
  · -- `v1 * v2`, unsigned
    simp [nonneg_eq, hn1, hn2]
    rw [den_of_not_isNeg hn1, den_of_not_isNeg hn2]
    exact mulU_exact _ _
  · -- `-(|v2| * v1)`
    obtain ⟨e, -, d⟩ := neg_of_isNeg h2 hn2
    simp [nonneg_eq, hn1, hn2, e]
    rw [den_of_not_isNeg hn1]
    exact (mulN_exact _ _).of_eq (by rw [d, Int.neg_mul, Int.neg_neg, Int.mul_comm])
  · -- `-(|v1| * v2)`
    obtain ⟨e, -, d⟩ := neg_of_isNeg h1 hn1
    simp [nonneg_eq, hn1, hn2, e]
    rw [den_of_not_isNeg hn2]
    exact (mulN_exact _ _).of_eq (by rw [d, Int.neg_mul, Int.neg_neg])
  · -- `|v1| * |v2|`
    obtain ⟨e1, -, d1⟩ := neg_of_isNeg h1 hn1
    obtain ⟨e2, -, d2⟩ := neg_of_isNeg h2 hn2
    simp [e1, e2, nonneg]
    exact (mulU_exact _ _).of_eq (by rw [d1, d2, Int.neg_mul_neg])

end ZInt
end ZwVerif
