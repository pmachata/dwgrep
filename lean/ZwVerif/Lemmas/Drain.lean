import ZwVerif.Model.SubOps
/-!
Pulling a machine until it reports exhaustion: the facts every machine model shares.  `SubOps.DrainR` drains a
`next` relation, `SubOps.Drain` a `next` function; the other machine models (Pipe, Merge, Or, Closure, DieIt) each
declare a `Drain` of their own of the same shape, and bridge to `DrainR` where they need these facts.
-/
namespace ZwVerif.SubOps

theorem drainR_det {σ ρ : Type} {next : σ → Option ρ → σ → Prop}
    (det : ∀ st r1 s1 r2 s2, next st r1 s1 → next st r2 s2 → r1 = r2 ∧ s1 = s2)
    {st s1 s2 : σ} {o1 o2 : List ρ} (h1 : DrainR next st o1 s1) (h2 : DrainR next st o2 s2) : o1 = o2 ∧ s1 = s2 := by
  induction h1 generalizing o2 with
  | nil h =>
    cases h2 with
    | nil h' => exact ⟨rfl, (det _ _ _ _ _ h h').2⟩
    | cons h' _ => cases (det _ _ _ _ _ h h').1
  | cons h _ ih =>
    cases h2 with
    | nil h' => cases (det _ _ _ _ _ h h').1
    | cons h' hd =>
      obtain ⟨⟨⟩, rfl⟩ := det _ _ _ _ _ h h'
      obtain ⟨rfl, rfl⟩ := ih hd
      exact ⟨rfl, rfl⟩

section
variable {σ ρ : Type} {next : σ → Option ρ × σ} {st st' fin : σ} {x : ρ} {xs : List ρ}

theorem Drain.step_none (e : next st = (none, st')) : Drain next st [] st' := by
  have := Drain.nil (next := next) (st := st) (by rw [e]); rwa [e] at this

theorem Drain.step_some (e : next st = (some x, st')) (h : Drain next st' xs fin) : Drain next st (x :: xs) fin :=
  .cons (by rw [e]) (by rwa [e])

theorem drain_congr (e : next st = next st') (h : Drain next st' xs fin) : Drain next st xs fin := by
  cases h with
  | nil h' => rw [← e] at h' ⊢; exact .nil h'
  | cons h' hd => rw [← e] at h' hd; exact .cons h' hd

theorem Drain.toR (h : Drain next st xs fin) : DrainR (fun a r b => next a = (r, b)) st xs fin := by
  induction h with
  | nil h => exact .nil (Prod.ext h rfl)
  | cons h _ ih => exact .cons (Prod.ext h rfl) ih

end

theorem drain_det {σ ρ : Type} (next : σ → Option ρ × σ) (st : σ) (o1 : List ρ) (s1 : σ) (h1 : Drain next st o1 s1) :
    ∀ (o2 : List ρ) (s2 : σ), Drain next st o2 s2 → o1 = o2 ∧ s1 = s2 := fun _ _ h2 =>
  drainR_det (fun _ _ _ _ _ a b => Prod.mk.inj (a.symm.trans b)) h1.toR h2.toR

/-- An operator that holds on to an item while a chain works on it (`emb`: the chain's state inside the
    operator's) yields the chain's results, each turned into a result of its own, and then goes on from where
    the dry chain leaves it (`exit`). -/
theorem Drain.nest {σ τ ρ ρ' : Type} {outer : σ → Option ρ' × σ} {inner : τ → Option ρ × τ} (emb exit : τ → σ) (g : ρ → ρ')
    (hy : ∀ t y t', inner t = (some y, t') → outer (emb t) = (some (g y), emb t'))
    (hn : ∀ t t', inner t = (none, t') → outer (emb t) = outer (exit t'))
    {t t' : τ} {ys : List ρ} {out : List ρ'} {fin : σ} (hi : Drain inner t ys t') (ho : Drain outer (exit t') out fin) :
    Drain outer (emb t) (ys.map g ++ out) fin := by
  induction hi with
  | nil h => exact drain_congr (hn _ _ (Prod.ext h rfl)) ho
  | cons h _ ih => exact .step_some (hy _ _ _ (Prod.ext h rfl)) (ih ho)

end ZwVerif.SubOps
