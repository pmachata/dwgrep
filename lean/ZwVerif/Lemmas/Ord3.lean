import ZwVerif.Model.Value
/-
  Three-way comparators that may fail (`Option Ord3`, `none` = cmp_result::fail) and what it
  means for one to be a consistent total preorder on a set of values; closure of that notion
  under the ways the C++ builds comparisons: by a numeric key, one comparison after another
  (`lexO`), element by element along equally long lists (`cmpListO`, compare_sequences), and
  true lexicographic order (`lexFull`, std::string / std::vector comparison).

  Core Lean only.
-/
namespace ZwVerif

def Ord3.swap : Ord3 → Ord3
  | .lt => .gt | .eq => .eq | .gt => .lt

@[simp] theorem Ord3.swap_swap (r : Ord3) : r.swap.swap = r := by cases r <;> rfl
@[simp] theorem Ord3.swap_inj {r s : Ord3} : r.swap = s.swap ↔ r = s :=
  ⟨fun h => by simpa using congrArg Ord3.swap h, congrArg _⟩
@[simp] theorem Ord3.swap_lt : Ord3.swap .lt = .gt := rfl
@[simp] theorem Ord3.swap_gt : Ord3.swap .gt = .lt := rfl
@[simp] theorem Ord3.swap_eq : Ord3.swap .eq = .eq := rfl

@[simp] theorem Ord3.cmpNat_eq_lt {a b : Nat} : Ord3.cmpNat a b = .lt ↔ a < b := by
  by_cases h1 : a < b <;> by_cases h2 : b < a <;> simp [Ord3.cmpNat, h1, h2]
@[simp] theorem Ord3.cmpNat_eq_eq {a b : Nat} : Ord3.cmpNat a b = .eq ↔ a = b := by
  by_cases h1 : a < b <;> by_cases h2 : b < a <;> simp [Ord3.cmpNat, h1, h2] <;> omega
@[simp] theorem Ord3.cmpNat_eq_gt {a b : Nat} : Ord3.cmpNat a b = .gt ↔ b < a := by
  by_cases h1 : a < b <;> by_cases h2 : b < a <;> simp [Ord3.cmpNat, h1, h2]; omega
theorem Ord3.ite_eq_cmpNat {γ : Type} (a b : Nat) (x y z : γ) :
    (if a < b then x else if b < a then y else z) =
      match Ord3.cmpNat a b with | .lt => x | .eq => z | .gt => y := by
  by_cases h1 : a < b <;> by_cases h2 : b < a <;> simp [Ord3.cmpNat, h1, h2]
theorem Ord3.cmpNat_swap (a b : Nat) : Ord3.cmpNat b a = (Ord3.cmpNat a b).swap := by
  cases h : Ord3.cmpNat a b <;> simp_all

abbrev Cmp (α : Type) := α → α → Option Ord3

/-- what a consistent order says about three values: `a` equals itself; `a ? b` is decided and is
    the mirror image of `b ? a`; `<` is transitive; equal values compare alike with anything -/
structure Tri {α : Type} (c : Cmp α) (a b x : α) : Prop where
  refl : c a a = some .eq
  swap : ∃ r, c a b = some r ∧ c b a = some r.swap
  trans : c a b = some .lt → c b x = some .lt → c a x = some .lt
  congr : c a b = some .eq → c a x = c b x

/-- `c` is a consistent total preorder on the values satisfying `M` -/
def GoodOn {α : Type} (c : Cmp α) (M : α → Prop) : Prop := ∀ a b x, M a → M b → M x → Tri c a b x

variable {α β : Type}

/-- `Tri` speaks of the comparator on five pairs only -/
theorem Tri.of_eq {c : Cmp α} {d : Cmp β} {a b x : α} {a' b' x' : β} (t : Tri d a' b' x')
    (haa : c a a = d a' a') (hab : c a b = d a' b') (hba : c b a = d b' a') (hbx : c b x = d b' x')
    (hax : c a x = d a' x') : Tri c a b x := by
  refine ⟨?_, ?_, ?_, ?_⟩
  · rw [haa]; exact t.refl
  · rw [hab, hba]; exact t.swap
  · rw [hab, hbx, hax]; exact t.trans
  · rw [hab, hax, hbx]; exact t.congr

theorem GoodOn.mono {c : Cmp α} {M N : α → Prop} (h : GoodOn c M) (hs : ∀ a, N a → M a) : GoodOn c N :=
  fun a b x ha hb hx => h a b x (hs a ha) (hs b hb) (hs x hx)

/-- `Tri` speaks of three values at a time, and any three lie below a common bound -/
theorem GoodOn.of_bounded {c : Cmp α} {M : α → Prop} (μ : α → Nat) (h : ∀ n, GoodOn c (fun a => M a ∧ μ a < n)) :
    GoodOn c M :=
  fun a b x ha hb hx => h (μ a + μ b + μ x + 1) a b x ⟨ha, by omega⟩ ⟨hb, by omega⟩ ⟨hx, by omega⟩

theorem GoodOn.comap {c : Cmp α} {M : α → Prop} (f : β → α) (h : GoodOn c M) :
    GoodOn (fun u v => c (f u) (f v)) (fun u => M (f u)) :=
  fun a b x ha hb hx => (h (f a) (f b) (f x) ha hb hx).of_eq rfl rfl rfl rfl rfl

theorem GoodOn.image {c : Cmp α} {d : Cmp β} {M : α → Prop} {N : β → Prop} (f : β → α) (h : GoodOn d N)
    (e : ∀ u v, N u → N v → c (f u) (f v) = d u v) (onto : ∀ a, M a → ∃ u, N u ∧ f u = a) : GoodOn c M := by
  intro a b x ha hb hx
  obtain ⟨u, hu, rfl⟩ := onto a ha
  obtain ⟨v, hv, rfl⟩ := onto b hb
  obtain ⟨w, hw, rfl⟩ := onto x hx
  exact (h u v w hu hv hw).of_eq (e u u hu hu) (e u v hu hv) (e v u hv hu) (e v w hv hw) (e u w hu hw)

theorem GoodOn.of_agree {c d : Cmp α} {M : α → Prop} (h : GoodOn d M) (e : ∀ u v, M u → M v → c u v = d u v) :
    GoodOn c M :=
  h.image id e fun a ha => ⟨a, ha, rfl⟩

theorem GoodOn.singleton {c : Cmp α} {M : α → Prop} {z : α} (hz : c z z = some .eq) (hM : ∀ a, M a → a = z) :
    GoodOn c M := by
  intro a b x ha hb hx
  cases hM a ha; cases hM b hb; cases hM x hx
  exact ⟨hz, ⟨.eq, hz, hz⟩, fun e _ => e, fun _ => rfl⟩

theorem GoodOn.congr_right {c : Cmp α} {M : α → Prop} (h : GoodOn c M) {a b x : α} (ha : M a) (hb : M b) (hx : M x)
    (e : c b x = some .eq) : c a b = c a x := by
  obtain ⟨r, h1, h2⟩ := (h a b x ha hb hx).swap
  obtain ⟨s, h3, h4⟩ := (h a x b ha hx hb).swap
  -- `c b a = c x a`, mirrored
  rw [(h b x a hb hx ha).congr e, h4] at h2
  rw [h1, h3, Ord3.swap_inj.1 (Option.some.inj h2)]

def byNat (f : α → Nat) : Cmp α := fun a b => some (Ord3.cmpNat (f a) (f b))

theorem byNat_eq_iff (f : α → Nat) (a b : α) : byNat f a b = some .eq ↔ f a = f b := by
  simp [byNat]

theorem byNat_good (f : α → Nat) (M : α → Prop) : GoodOn (byNat f) M := by
  intro a b x _ _ _
  refine ⟨(byNat_eq_iff ..).2 rfl, ⟨_, rfl, congrArg some (Ord3.cmpNat_swap ..)⟩, ?_, ?_⟩
  · simp only [byNat, Option.some.injEq, Ord3.cmpNat_eq_lt]; omega
  · rw [byNat_eq_iff]; intro h; simp only [byNat, h]

def lexO (c1 c2 : Cmp α) : Cmp α := fun a b =>
  match c1 a b with
  | some .eq => c2 a b
  | r => r

section
variable {c1 c2 : Cmp α} {a b : α}

theorem lexO_of_eq (h : c1 a b = some .eq) : lexO c1 c2 a b = c2 a b := by
  simp [lexO, h]

theorem lexO_of_lt (h : c1 a b = some .lt) : lexO c1 c2 a b = some .lt := by
  simp [lexO, h]

theorem lexO_of_gt (h : c1 a b = some .gt) : lexO c1 c2 a b = some .gt := by
  simp [lexO, h]

theorem lexO_eq_lt : lexO c1 c2 a b = some .lt ↔ c1 a b = some .lt ∨ c1 a b = some .eq ∧ c2 a b = some .lt := by
  unfold lexO; rcases c1 a b with _ | _ | _ | _ <;> simp

theorem lexO_eq_eq : lexO c1 c2 a b = some .eq ↔ c1 a b = some .eq ∧ c2 a b = some .eq := by
  unfold lexO; rcases c1 a b with _ | _ | _ | _ <;> simp
end

theorem lexO_good {c1 c2 : Cmp α} {M : α → Prop} (h1 : GoodOn c1 M)
    (h2 : ∀ a b x, M a → M b → M x → c1 a b = some .eq → c1 b x = some .eq → Tri c2 a b x) :
    GoodOn (lexO c1 c2) M := by
  intro a b x ha hb hx
  have t := h1 a b x ha hb hx
  refine ⟨?_, ?_, ?_, ?_⟩
  · rw [lexO_of_eq t.refl]; exact (h2 a a a ha ha ha t.refl t.refl).refl
  · obtain ⟨r, hab, hba⟩ := t.swap
    cases r with
    | lt => exact ⟨.lt, lexO_of_lt hab, lexO_of_gt hba⟩
    | eq => rw [lexO_of_eq hab, lexO_of_eq hba]; exact (h2 a b a ha hb ha hab hba).swap
    | gt => exact ⟨.gt, lexO_of_gt hab, lexO_of_lt hba⟩
  · rw [lexO_eq_lt, lexO_eq_lt, lexO_eq_lt]
    rintro (l1 | ⟨e1, l1⟩) (l2 | ⟨e2, l2⟩)
    · exact .inl (t.trans l1 l2)
    · exact .inl (h1.congr_right ha hb hx e2 ▸ l1)
    · exact .inl (t.congr e1 ▸ l2)
    · exact .inr ⟨t.congr e1 ▸ e2, (h2 a b x ha hb hx e1 e2).trans l1 l2⟩
  · intro l
    obtain ⟨e1, e2⟩ := lexO_eq_eq.1 l
    simp only [lexO, t.congr e1]
    split
    · exact (h2 a b x ha hb hx e1 ‹_›).congr e2
    · rfl

theorem GoodOn.lex {c1 c2 : Cmp α} {M : α → Prop} (h1 : GoodOn c1 M) (h2 : GoodOn c2 M) : GoodOn (lexO c1 c2) M :=
  lexO_good h1 fun a b x ha hb hx _ _ => h2 a b x ha hb hx

/-- a key first, coded injectively as a number: it is enough that `c` is good on each class of equal keys -/
theorem lexO_byKey_good {κ : Type} {c : Cmp α} {M : α → Prop} (key : α → κ) (code : κ → Nat)
    (inj : ∀ j k, code j = code k → j = k) (h : ∀ k, GoodOn c (fun a => M a ∧ key a = k)) :
    GoodOn (lexO (byNat fun a => code (key a)) c) M :=
  lexO_good (byNat_good _ M) fun a b x ha hb hx e1 e2 =>
    have e1 := inj _ _ ((byNat_eq_iff ..).1 e1)
    have e2 := inj _ _ ((byNat_eq_iff ..).1 e2)
    h (key x) a b x ⟨ha, e1.trans e2⟩ ⟨hb, e2⟩ ⟨hx, rfl⟩

/-- true lexicographic order: a proper prefix is smaller (`std::string::compare`, `operator<` of vectors) -/
def lexFull (c : Cmp α) : List α → List α → Option Ord3
  | [], [] => some .eq
  | [], _ :: _ => some .lt
  | _ :: _, [] => some .gt
  | a :: as, b :: bs =>
    match c a b with
    | some .eq => lexFull c as bs
    | r => r

def ListsUpTo (M : α → Prop) (n : Nat) (l : List α) : Prop := l.length ≤ n ∧ ∀ e ∈ l, M e

theorem ListsUpTo_cons {M : α → Prop} {n : Nat} {a : α} {as : List α} :
    ListsUpTo M (n + 1) (a :: as) ↔ M a ∧ ListsUpTo M n as := by
  simp [ListsUpTo, and_left_comm]

theorem lexFull_good {c : Cmp α} {M : α → Prop} (h : GoodOn c M) :
    ∀ n, GoodOn (lexFull c) (ListsUpTo M n) := by
  intro n
  induction n with
  | zero => exact .singleton (z := []) rfl fun a ha => List.eq_nil_of_length_eq_zero (Nat.le_zero.1 ha.1)
  | succ n ih =>
    -- the empty list before the others; among those, heads first, then the tails
    have e : ∀ u v, lexFull c u v = lexO (byNat fun l => if l.isEmpty then 0 else 1) (lexFull c) u v := by
      intro u v; cases u <;> cases v <;> rfl
    refine (lexO_byKey_good List.isEmpty (fun e => if e then 0 else 1) (by decide) fun k => ?_).of_agree fun u v _ _ => e u v
    cases k
    · -- a non-empty list is a head and a tail
      have g : GoodOn (lexO (fun u v => c u.1 v.1) (fun u v => lexFull c u.2 v.2))
          (fun p : α × List α => M p.1 ∧ ListsUpTo M n p.2) :=
        ((h.comap Prod.fst).mono fun _ hp => hp.1).lex ((ih.comap Prod.snd).mono fun _ hp => hp.2)
      refine g.image (fun p => p.1 :: p.2) (fun _ _ _ _ => rfl) ?_
      rintro (_ | ⟨a, as⟩) ⟨hl, he⟩
      · cases he
      · exact ⟨(a, as), ListsUpTo_cons.1 hl, rfl⟩
    · exact .singleton (z := []) rfl fun a ha => List.isEmpty_iff.1 ha.2

theorem lexFull_good' {c : Cmp α} {M : α → Prop} (h : GoodOn c M) :
    GoodOn (lexFull c) (fun l => ∀ e ∈ l, M e) :=
  .of_bounded List.length fun n => (lexFull_good h n).mono fun _ hl => ⟨Nat.le_of_lt hl.2, hl.1⟩

theorem lexFull_byNat_good (f : α → Nat) : GoodOn (lexFull (byNat f)) (fun _ => True) :=
  (lexFull_good' (byNat_good f fun _ => True)).mono fun _ _ _ _ => trivial

/-- element by element along two lists, stopping at the end of either (`compare_sequences`) -/
def cmpListO (c : Cmp α) : List α → List α → Option Ord3
  | a :: as, b :: bs =>
    match c a b with
    | some .eq => cmpListO c as bs
    | r => r
  | _, _ => some .eq

/-- `value_seq::cmp` compares the element types along the two sequences first and the elements only when all
    types agree; there, comparing the elements type-first again changes nothing. -/
theorem cmpListO_lexO_of_eq {c1 c2 : Cmp α} {l1 l2 : List α} (h : cmpListO c1 l1 l2 = some .eq) :
    cmpListO (lexO c1 c2) l1 l2 = cmpListO c2 l1 l2 := by
  fun_induction cmpListO c1 l1 l2 with
  | case1 a as b bs e ih => simp only [cmpListO, lexO_of_eq e, ih h]
  | case2 a as b bs ne => exact absurd h ne
  | case3 _ _ nc => rw [cmpListO, cmpListO] <;> exact nc

def ListsOf (M : α → Prop) (n : Nat) (l : List α) : Prop := l.length = n ∧ ∀ e ∈ l, M e

theorem cmpListO_eq_lexFull {c : Cmp α} : ∀ {l1 l2 : List α}, l1.length = l2.length → cmpListO c l1 l2 = lexFull c l1 l2
  | [], [], _ => rfl
  | a :: as, b :: bs, h => by rw [cmpListO, lexFull, cmpListO_eq_lexFull (Nat.succ.inj h)]

theorem cmpListO_good {c : Cmp α} {M : α → Prop} (h : GoodOn c M) :
    ∀ n, GoodOn (cmpListO c) (ListsOf M n) := fun _ =>
  ((lexFull_good' h).mono fun _ hl => hl.2).of_agree fun _ _ hu hv => cmpListO_eq_lexFull (hu.1.trans hv.1.symm)

end ZwVerif
