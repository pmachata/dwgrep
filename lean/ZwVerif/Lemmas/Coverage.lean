import ZwVerif.Model.Coverage
/-! Set semantics of the coverage model (proof side of C16). -/
namespace ZwVerif
namespace Cov

/-- the set denoted -/
def mem (x : Nat) (c : Cov) : Prop := ∃ r ∈ c, r.1 ≤ x ∧ x < r.1 + r.2

/-- canonical form: non-empty ranges, ascending, neither overlapping nor adjacent -/
def WF : Cov → Prop
  | [] => True
  | (s, l) :: rest => 0 < l ∧ (∀ r ∈ rest, s + l < r.1) ∧ WF rest

@[simp] theorem mem_nil (x : Nat) : mem x [] ↔ False := by simp [mem]

@[simp] theorem mem_cons (x : Nat) (a n : Nat) (c : Cov) :
    mem x ((a, n) :: c) ↔ (a ≤ x ∧ x < a + n) ∨ mem x c := by
  simp only [mem, List.mem_cons, exists_eq_or_imp]

theorem mem_append (x : Nat) (c d : Cov) : mem x (c ++ d) ↔ mem x c ∨ mem x d := by
  simp only [mem, List.mem_append, or_and_right, exists_or]

/-- The interval from `lo` to `hi`, empty or not: the shape in which `removePos` and `intersect`
emit their pieces. -/
theorem mem_span (x lo hi : Nat) :
    mem x (if lo < hi then [(lo, hi - lo)] else []) ↔ lo ≤ x ∧ x < hi := by
  split
  · rw [mem_cons, mem_nil, or_false]; omega
  · rw [mem_nil, false_iff]; omega

theorem WF.pos : ∀ {c : Cov}, WF c → ∀ r ∈ c, 0 < r.2
  | (_, _) :: _, ⟨hl, _, hw⟩, r, hr => by
    rcases List.mem_cons.mp hr with rfl | hr
    · exact hl
    · exact hw.pos r hr

theorem WF.pairwise : ∀ {c : Cov}, WF c → c.Pairwise fun r r' => r.1 + r.2 < r'.1
  | [], _ => .nil
  | (_, _) :: _, ⟨_, hsep, hw⟩ => .cons hsep hw.pairwise

theorem WF.mem_start {c : Cov} (h : WF c) {r : Range} (hr : r ∈ c) : mem r.1 c :=
  ⟨r, hr, Nat.le_refl _, Nat.lt_add_of_pos_right (h.pos r hr)⟩

/-- `WF` with the separation clause read on members instead of on ranges (the ranges of a
canonical tail are non-empty, so it is the same).  In this form an operation's `mem_` lemma is
all that is needed to re-establish the clause for its result. -/
theorem WF_cons {a n : Nat} {c : Cov} :
    WF ((a, n) :: c) ↔ 0 < n ∧ WF c ∧ ∀ x, mem x c → a + n < x := by
  constructor
  · rintro ⟨hn, hsep, hw⟩
    exact ⟨hn, hw, fun x ⟨r, hr, h1, _⟩ => Nat.lt_of_lt_of_le (hsep r hr) h1⟩
  · rintro ⟨hn, hw, hsep⟩
    exact ⟨hn, fun r hr => hsep r.1 (hw.mem_start hr), hw⟩

theorem WF_span_append {lo hi : Nat} {c : Cov} (hc : WF c) (h : ∀ x, mem x c → hi < x) :
    WF ((if lo < hi then [(lo, hi - lo)] else []) ++ c) := by
  split
  · exact WF_cons.mpr ⟨by omega, hc, fun x hx => by have := h x hx; omega⟩
  · exact hc

theorem WF_head_min {a n : Nat} {c : Cov} (h : WF ((a, n) :: c)) {x : Nat}
    (hx : mem x ((a, n) :: c)) : a ≤ x := by
  rcases (mem_cons ..).mp hx with hx | hx
  · exact hx.1
  · have := (WF_cons.mp h).2.2 x hx; omega

theorem mem_tail_iff {a n : Nat} {c : Cov} (h : WF ((a, n) :: c)) {x : Nat} :
    mem x c ↔ a + n < x ∧ mem x ((a, n) :: c) := by
  rw [mem_cons]
  exact ⟨fun hx => ⟨(WF_cons.mp h).2.2 x hx, .inr hx⟩, fun ⟨h1, h2⟩ => h2.resolve_left (by omega)⟩

/-- The ranges of a canonical coverage are maximal runs: the address just past one is no member. -/
theorem WF.not_mem_end {c : Cov} (h : WF c) : ∀ r ∈ c, ¬ mem (r.1 + r.2) c := by
  induction c with
  | nil => nofun
  | cons hd c ih =>
    obtain ⟨_, hw, hsep⟩ := WF_cons.mp h
    intro r hr hm
    rcases List.mem_cons.mp hr with rfl | hr <;> rcases (mem_cons ..).mp hm with hm | hm
    · omega
    · exact Nat.lt_irrefl _ (hsep _ hm)
    · have := hsep _ (hw.mem_start hr); omega
    · exact ih hw r hr hm

theorem mem_addPos (x s l : Nat) (c : Cov) :
    mem x (addPos s l c) ↔ (s ≤ x ∧ x < s + l) ∨ mem x c := by
  fun_induction addPos s l c with
  | case1 => simp
  | case2 => simp  -- `s + l < a`: the new range goes before the head
  | case3 s l a n rest _ _ ih =>  -- `a + n < s`: it goes after the head
    rw [mem_cons, ih, mem_cons]; exact or_left_comm
  | case4 s l a n rest _ _ ih =>
    -- otherwise the two touch, and go on as one range from the lesser start to the greater end
    rw [ih, mem_cons, ← or_assoc]; exact or_congr_left (by omega)

theorem WF_addPos (s l : Nat) (c : Cov) (hl : 0 < l) (h : WF c) : WF (addPos s l c) := by
  fun_induction addPos s l c with
  | case1 => exact WF_cons.mpr ⟨hl, h, nofun⟩
  | case2 s l a n rest h1 =>  -- `s + l < a`: before the head
    exact WF_cons.mpr ⟨hl, h, fun x hx => by have := WF_head_min h hx; omega⟩
  | case3 s l a n rest _ h2 ih =>  -- `a + n < s`: after the head
    obtain ⟨hn, hw, hsep⟩ := WF_cons.mp h
    refine WF_cons.mpr ⟨hn, ih hl hw, fun x hx => ?_⟩
    rcases (mem_addPos ..).mp hx with hx | hx
    · omega
    · exact hsep x hx
  | case4 s l a n rest _ _ ih =>  -- coalesced with the head
    exact ih (by omega) (WF_cons.mp h).2.1

theorem mem_add (x s l : Nat) (c : Cov) :
    mem x (add s l c) ↔ (s ≤ x ∧ x < s + l) ∨ mem x c := by
  unfold add; split
  · exact (or_iff_right (by omega)).symm
  · exact mem_addPos x s l c

theorem add_nil {s l : Nat} (hl : 0 < l) : add s l [] = [(s, l)] := by
  rw [add, if_neg (by omega), addPos]

theorem WF_add (s l : Nat) (c : Cov) (h : WF c) : WF (add s l c) := by
  unfold add; split
  · exact h
  · exact WF_addPos s l c (by omega) h

theorem mem_removePos (x s l : Nat) (c : Cov) (h : WF c) :
    mem x (removePos s l c) ↔ mem x c ∧ ¬ (s ≤ x ∧ x < s + l) := by
  fun_induction removePos s l c with
  | case1 => simp
  | case2 a n rest _ ih =>  -- `a + n ≤ s`: the head lies below the cut
    rw [mem_cons, ih (WF_cons.mp h).2.1, mem_cons, or_and_right]
    exact or_congr_left (by omega)
  | case3 a n rest _ _ =>  -- `s + l ≤ a`: the cut lies below the head, hence below everything
    exact (and_iff_left_of_imp fun hx => by have := WF_head_min h hx; omega).symm
  | case4 a n rest _ _ ih =>  -- the cut meets the head: what is left of it on either side
    rw [mem_append, mem_append, mem_span, mem_span, ih (WF_cons.mp h).2.1, mem_cons, or_and_right]
    exact or_congr_left (by omega)

theorem WF_removePos (s l : Nat) (c : Cov) (hl : 0 < l) (h : WF c) : WF (removePos s l c) := by
  -- the result is a subset, so what bounds the members of `c` from below bounds its members
  have hlb {b : Nat} {c : Cov} (hw : WF c) (hb : ∀ x, mem x c → b < x) x
      (hx : mem x (removePos s l c)) : b < x := hb x ((mem_removePos x s l c hw).mp hx).1
  fun_induction removePos s l c with
  | case1 => trivial
  | case2 a n rest _ ih =>  -- `a + n ≤ s`: the head lies below the cut
    obtain ⟨hn, hw, hsep⟩ := WF_cons.mp h
    exact WF_cons.mpr ⟨hn, ih hw, hlb hw hsep⟩
  | case3 => exact h  -- `s + l ≤ a`: nothing changes
  | case4 a n rest _ _ ih =>  -- the cut meets the head
    obtain ⟨hn, hw, hsep⟩ := WF_cons.mp h
    rw [List.append_assoc]
    refine WF_span_append (WF_span_append (ih hw) (hlb hw hsep)) fun x hx => ?_
    rcases (mem_append ..).mp hx with hx | hx
    · have := (mem_span ..).mp hx; omega
    · have := hlb hw hsep x hx; omega

theorem mem_remove (x s l : Nat) (c : Cov) (h : WF c) :
    mem x (remove s l c) ↔ mem x c ∧ ¬ (s ≤ x ∧ x < s + l) := by
  unfold remove; split
  · exact (and_iff_left (by omega)).symm
  · exact mem_removePos x s l c h

theorem WF_remove (s l : Nat) (c : Cov) (h : WF c) : WF (remove s l c) := by
  unfold remove; split
  · exact h
  · exact WF_removePos s l c (by omega) h

theorem intersect_cons (s l a n : Nat) (c : Cov) :
    intersect s l ((a, n) :: c) =
      (if max a s < min (a + n) (s + l) then [(max a s, min (a + n) (s + l) - max a s)] else [])
        ++ intersect s l c := by
  by_cases h : max a s < min (a + n) (s + l)
  · rw [if_pos h]; exact List.filterMap_cons_some (if_pos h)
  · rw [if_neg h]; exact List.filterMap_cons_none (if_neg h)

theorem mem_intersect (x s l : Nat) (c : Cov) :
    mem x (intersect s l c) ↔ mem x c ∧ (s ≤ x ∧ x < s + l) := by
  induction c with
  | nil => simp [intersect]
  | cons r c ih =>
    rw [intersect_cons, mem_append, mem_span, ih, mem_cons, or_and_right, Nat.max_le, Nat.lt_min,
      and_and_and_comm]

theorem WF_intersect (s l : Nat) (c : Cov) (h : WF c) : WF (intersect s l c) := by
  induction c with
  | nil => trivial
  | cons r c ih =>
    obtain ⟨hn, hw, hsep⟩ := WF_cons.mp h
    rw [intersect_cons]
    exact WF_span_append (ih hw) fun x hx => by
      have := hsep x ((mem_intersect ..).mp hx).1; omega

theorem isCovered_iff (s l : Nat) (c : Cov) (hl : 0 < l) (h : WF c) :
    isCovered s l c = true ↔ ∀ x, s ≤ x → x < s + l → mem x c := by
  simp only [isCovered, List.any_eq_true, Bool.and_eq_true, decide_eq_true_eq]
  constructor
  · rintro ⟨r, hm, hc⟩ x h1 h2
    exact ⟨r, hm, by omega⟩
  · intro hall
    -- the range holding `s` holds the whole interval: the address just past it is no member
    obtain ⟨r, hr, h1, h2⟩ := hall s (Nat.le_refl s) (by omega)
    exact ⟨r, hr, h1, Nat.le_of_not_lt fun hlt => h.not_mem_end r hr (hall _ (by omega) hlt)⟩

theorem isOverlap_iff (s l : Nat) (c : Cov) :
    isOverlap s l c = true ↔ ∃ x, s ≤ x ∧ x < s + l ∧ mem x c := by
  simp only [isOverlap, List.any_eq_true, decide_eq_true_eq]
  constructor
  · rintro ⟨r, hm, hc⟩
    obtain ⟨h1, h2⟩ := Nat.lt_min.mp hc
    exact ⟨max r.1 s, Nat.le_max_right .., h2, r, hm, Nat.le_max_left .., h1⟩
  · rintro ⟨x, h1, h2, r, hm, h3, h4⟩
    exact ⟨r, hm, Nat.lt_of_le_of_lt (Nat.max_le.mpr ⟨h3, h1⟩) (Nat.lt_min.mpr ⟨h4, h2⟩)⟩

theorem canonical_unique (c d : Cov) (hc : WF c) (hd : WF d)
    (h : ∀ x, mem x c ↔ mem x d) : c = d := by
  induction c generalizing d with
  | nil =>
    cases d with
    | nil => rfl
    | cons r d => exact ((mem_nil _).mp ((h _).mpr (hd.mem_start List.mem_cons_self))).elim
  | cons r c ih =>
    cases d with
    | nil => exact ((mem_nil _).mp ((h _).mp (hc.mem_start List.mem_cons_self))).elim
    | cons r' d =>
      obtain ⟨a, n⟩ := r
      obtain ⟨b, m⟩ := r'
      -- the heads start at the least member ...
      obtain rfl : a = b :=
        Nat.le_antisymm (WF_head_min hc ((h b).mpr (hd.mem_start List.mem_cons_self)))
          (WF_head_min hd ((h a).mp (hc.mem_start List.mem_cons_self)))
      -- ... and end at the first address above it that is no member
      have hn := hc.not_mem_end _ List.mem_cons_self
      have hm := hd.not_mem_end _ List.mem_cons_self
      rw [h, mem_cons] at hn
      rw [← h, mem_cons] at hm
      obtain rfl : n = m := by omega
      -- the tails hold the members above the head
      rw [ih d (WF_cons.mp hc).2.1 (WF_cons.mp hd).2.1 fun x => by
        rw [mem_tail_iff hc, mem_tail_iff hd, h]]

theorem cmp_step_eq_zero (a b : Nat) (x : Int) :
    (if a < b then -1 else if b < a then 1 else x) = 0 ↔ a = b ∧ x = 0 := by
  split
  · omega
  · split
    · omega
    · omega

theorem cmpRanges_eq_zero (c d : Cov) (hlen : c.length = d.length) :
    cmpRanges c d = 0 ↔ c = d := by
  induction c generalizing d with
  | nil =>
    obtain rfl := List.eq_nil_of_length_eq_zero hlen.symm
    exact iff_of_true rfl rfl
  | cons hd rest ih =>
    obtain ⟨a, n⟩ := hd
    cases d with
    | nil => simp at hlen
    | cons hd' rest' =>
      obtain ⟨b, m⟩ := hd'
      rw [cmpRanges, cmp_step_eq_zero, cmp_step_eq_zero, ih rest' (by simpa using hlen)]
      simp [and_assoc]

theorem cmp_eq_zero (c d : Cov) : cmp c d = 0 ↔ c = d := by
  rw [cmp, cmp_step_eq_zero]
  constructor
  · rintro ⟨hlen, h⟩; exact (cmpRanges_eq_zero c d hlen).mp h
  · rintro rfl; exact ⟨rfl, (cmpRanges_eq_zero c c rfl).mpr rfl⟩

theorem WF_foldl {f : Cov → Range → Cov} (hf : ∀ c r, WF c → WF (f c r)) (o : List Range)
    {c : Cov} (h : WF c) : WF (o.foldl f c) := by
  induction o generalizing c with
  | nil => exact h
  | cons r o ih => exact ih (hf c r h)

theorem WF_addAll (c o : Cov) (h : WF c) : WF (addAll c o) :=
  WF_foldl (fun _ _ => WF_add _ _ _) o h

theorem mem_addAll (x : Nat) (c o : Cov) : mem x (addAll c o) ↔ mem x c ∨ mem x o := by
  unfold addAll
  induction o generalizing c with
  | nil => simp
  | cons r rest ih =>
    rw [List.foldl_cons, ih, mem_add, mem_cons, or_assoc, or_left_comm]

theorem WF_removeAll (c o : Cov) (h : WF c) : WF (removeAll c o) :=
  WF_foldl (fun _ _ => WF_remove _ _ _) o h

theorem mem_removeAll (x : Nat) (c o : Cov) (h : WF c) :
    mem x (removeAll c o) ↔ mem x c ∧ ¬ mem x o := by
  unfold removeAll
  induction o generalizing c with
  | nil => simp
  | cons r rest ih =>
    rw [List.foldl_cons, ih _ (WF_remove _ _ _ h), mem_remove _ _ _ _ h, mem_cons, not_or,
      and_assoc]

end Cov
end ZwVerif
