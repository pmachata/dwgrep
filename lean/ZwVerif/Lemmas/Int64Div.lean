import ZwVerif.Lemmas.Int64
/-! Floor division / remainder exactness.  `operator/` and `operator%` work on signs and
magnitudes (`div_eq`, `mod_eq`); `fdiv_fmod_sg` says what floor division is in those terms. -/
namespace ZwVerif
namespace ZInt

/-- An integer given by sign and magnitude, the form in which `operator/` and `operator%`
    work: a value is `sg v.isNeg v.den.natAbs` (`den_sg`). -/
def sg (s : Bool) (x : Nat) : Int := if s then -(x : Int) else x

theorem den_sg {v : ZInt} (h : v.WF) : v.den = sg v.isNeg v.den.natAbs := by
  unfold sg
  by_cases hn : v.isNeg = true
  · have := (isNeg_iff_den_neg h).1 hn
    rw [if_pos hn]; omega
  · have := mt (isNeg_iff_den_neg h).2 hn
    rw [if_neg hn]; omega

/-- `ret` or `-ret`, the last step of `operator/` and `operator%`. -/
theorem sgU_exact {q : Nat} (hq : q < 2^64) (s : Bool) :
    Exact (if s then neg ⟨q, false⟩ else .ok ⟨q, false⟩) (sg s q) := by
  cases s
  · exact okU_exact hq
  · exact negU_exact q

theorem natAbs_den_lt {v : ZInt} (h : v.WF) : v.den.natAbs < 2^64 := by
  have := den_inRange h
  unfold InRange at this
  omega

/-- Both operators test the divisor for zero and then work on signs and magnitudes. -/
theorem DivSpec.intro {a b : ZInt} (ha : a.WF) (hb : b.WF) {core : Except IntErr ZInt}
    {f : Int → Int → Int}
    (h : 0 < b.den.natAbs →
      Exact core (f (sg a.isNeg a.den.natAbs) (sg b.isNeg b.den.natAbs))) :
    DivSpec (if b.u = 0 then .error .div0 else core) a.den b.den f := by
  unfold DivSpec
  by_cases h0 : b.den = 0
  · rw [if_pos h0, if_pos ((den_eq_zero_iff hb).1 h0)]
  · rw [if_neg h0, if_neg (mt (den_eq_zero_iff hb).2 h0), den_sg ha, den_sg hb]
    exact h (Int.natAbs_pos.2 h0)

theorem ltZero_eq {v : ZInt} (h : v.WF) : ltZero v = v.isNeg :=
  Bool.eq_iff_iff.2 ((lt_iff v ⟨0, true⟩ h (by decide)).trans (isNeg_iff_den_neg h).symm)

theorem natAbs_den_of_not_isNeg {v : ZInt} (hn : v.isNeg = false) : v.den.natAbs = v.u := by
  rw [den_of_not_isNeg hn]; rfl

theorem div_eq {v1 v2 : ZInt} (h1 : v1.WF) (h2 : v2.WF) :
    div v1 v2 = if v2.u = 0 then .error .div0
      else divCore v1.den.natAbs v2.den.natAbs (v1.isNeg != v2.isNeg) := by
  unfold div
  rw [ltZero_eq h1, ltZero_eq h2]
  -- by the two signs: an operand below zero is negated to its magnitude (first part of `neg_of_isNeg`), one that is not
  -- is its magnitude as it stands (`natAbs_den_of_not_isNeg`); `simp` only has to walk the `match`es of `div` with these
  cases hn1 : v1.isNeg <;> cases hn2 : v2.isNeg <;>
    simp [hn1, hn2, neg_of_isNeg, h1, h2, natAbs_den_of_not_isNeg, Except.map]

theorem mod_eq {v1 v2 : ZInt} (h1 : v1.WF) (h2 : v2.WF) :
    mod v1 v2 = if v2.u = 0 then .error .div0
      else modCore v1.den.natAbs v2.den.natAbs v1.isNeg v2.isNeg := by
  unfold mod
  rw [ltZero_eq h1, ltZero_eq h2]
  -- as in `div_eq`
  cases hn1 : v1.isNeg <;> cases hn2 : v2.isNeg <;>
    simp [hn1, hn2, neg_of_isNeg, h1, h2, natAbs_den_of_not_isNeg, Except.map]

theorem neg_fdiv_fmod {A B : Nat} (hB : 0 < B) :
    (-(A : Int)).fdiv B = -((if A % B ≠ 0 then A / B + 1 else A / B : Nat) : Int) ∧
    (-(A : Int)).fmod B = ((if A % B ≠ 0 then B - A % B else A % B : Nat) : Int) := by
  refine (Int.fdiv_fmod_unique (by omega)).2 ?_
  have hA := Nat.div_add_mod A B
  have hm := Nat.mod_lt A hB
  -- `omega` takes `↑B * ↑(A / B)` for an atom once the product is multiplied out
  split
  · rw [Int.mul_neg, Int.natCast_add, Int.mul_add]; omega
  · rw [Int.mul_neg]; omega

/-- Floor quotient and remainder of two signed magnitudes, in the shape in which `divCore` and
    `modCore` form them.  With equal signs it is the division of natural numbers; a negative
    divisor is brought back to a negative dividend by negating both. -/
theorem fdiv_fmod_sg {A B : Nat} (hB : 0 < B) (s1 s2 : Bool) :
    (sg s1 A).fdiv (sg s2 B)
      = sg (s1 != s2) (if (s1 != s2) = true ∧ A % B ≠ 0 then A / B + 1 else A / B) ∧
    (sg s1 A).fmod (sg s2 B) = sg s2 (if A % B ≠ 0 ∧ s1 ≠ s2 then B - A % B else A % B) := by
  have h := neg_fdiv_fmod (A := A) hB
  cases s1 <;> cases s2 <;>
    simp +decide only [sg, true_and, and_true, false_and, and_false, if_true, if_false]
  · exact ⟨(Int.ofNat_fdiv A B).symm, (Int.ofNat_fmod A B).symm⟩
  · rw [← Int.neg_neg (A : Int), Int.neg_fdiv_neg, Int.neg_fmod_neg, h.2]
    exact ⟨h.1, rfl⟩
  · exact h
  · rw [Int.neg_fdiv_neg, Int.neg_fmod_neg]
    exact ⟨(Int.ofNat_fdiv A B).symm, congrArg _ (Int.ofNat_fmod A B).symm⟩

theorem divCore_exact {A B : Nat} (hA : A < 2^64) (hB : 0 < B) (s1 s2 : Bool) :
    Exact (divCore A B (s1 != s2)) ((sg s1 A).fdiv (sg s2 B)) := by
  rw [(fdiv_fmod_sg hB s1 s2).1, divCore]
  -- the magnitude of the quotient is at most `A`, so `++q` does not wrap
  have := Nat.div_add_mod A B
  have := Nat.le_mul_of_pos_left (A / B) hB
  by_cases hc : (s1 != s2) = true ∧ A % B ≠ 0
  · simp only [if_pos hc]
    rw [Nat.mod_eq_of_lt (by omega)]
    exact sgU_exact (by omega) _
  · simp only [if_neg hc]
    exact sgU_exact (by omega) _

theorem modCore_exact {A B : Nat} (hB : 0 < B) (hB' : B < 2^64) (s1 s2 : Bool) :
    Exact (modCore A B s1 s2) ((sg s1 A).fmod (sg s2 B)) := by
  rw [(fdiv_fmod_sg hB s1 s2).2]
  have := Nat.mod_lt A hB
  exact sgU_exact (by split <;> omega) s2

theorem div_floor (a b : ZInt) (ha : a.WF) (hb : b.WF) :
    DivSpec (div a b) a.den b.den Int.fdiv := by
  rw [div_eq ha hb]
  exact .intro ha hb fun hB => divCore_exact (natAbs_den_lt ha) hB _ _

theorem mod_floor (a b : ZInt) (ha : a.WF) (hb : b.WF) :
    DivSpec (mod a b) a.den b.den Int.fmod := by
  rw [mod_eq ha hb]
  exact .intro ha hb fun hB => modCore_exact hB (natAbs_den_lt hb) _ _

end ZInt
end ZwVerif
