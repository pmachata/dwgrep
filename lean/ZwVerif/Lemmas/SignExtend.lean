import ZwVerif.Model.Atval
/-! Two's complement in `k` bytes (`Atval.signExtend`), for every width. -/
namespace ZwVerif.Atval

theorem two_pow_bytes {k : Nat} (hk : 0 < k) : (2 : Int) ^ (8 * k) = 2 * 2 ^ (8 * k - 1) := by
  rw [← Int.pow_succ', Nat.sub_add_cancel (by omega)]

theorem signExtend_spec {k : Nat} (hk : 0 < k) (b : Int) :
    (signExtend k b - b) % 2 ^ (8 * k) = 0 ∧ -2 ^ (8 * k - 1) ≤ signExtend k b ∧ signExtend k b < 2 ^ (8 * k - 1) := by
  have hm := two_pow_bytes hk
  have hh : (0 : Int) < 2 ^ (8 * k - 1) := Int.pow_pos (by decide)
  have h0 := Int.emod_nonneg b (b := 2 ^ (8 * k)) (by omega)
  have h1 := Int.emod_lt_of_pos b (b := 2 ^ (8 * k)) (by omega)
  simp only [signExtend]
  refine ⟨Int.emod_eq_emod_iff_emod_sub_eq_zero.mp ?_, ?_⟩
  · split <;> simp only [Int.sub_emod_right, Int.emod_emod]
  · split <;> omega

theorem signExtend_roundtrip {k : Nat} (hk : 0 < k) (v : Int) (h1 : -2 ^ (8 * k - 1) ≤ v) (h2 : v < 2 ^ (8 * k - 1)) :
    signExtend k (v % 2 ^ (8 * k)) = v := by
  have hm := two_pow_bytes hk
  simp only [signExtend, Int.emod_emod]
  by_cases hv : 0 ≤ v
  · rw [Int.emod_eq_of_lt hv (by omega), if_pos h2]
  · rw [← Int.add_emod_right, Int.emod_eq_of_lt (by omega) (by omega), if_neg (by omega)]; omega

end ZwVerif.Atval
