/-! How the models look things up (a DIE by its offset, a record of the parent table, the unit of an
offset, an abbreviation by its code): `List.find?` on a list whose order makes the match unique. -/
namespace ZwVerif

theorem find?_of_pairwise {α : Type} {R : α → α → Prop} {p : α → Bool} {l : List α} {d : α}
    (hl : l.Pairwise R) (hd : d ∈ l) (hp : p d = true) (hR : ∀ x, R x d → p x = false) :
    l.find? p = some d := by
  obtain ⟨as, bs, rfl⟩ := List.append_of_mem hd
  have hlt := (List.pairwise_append.mp hl).2.2
  exact List.find?_eq_some_iff_append.mpr
    ⟨hp, as, bs, rfl, fun a ha => by rw [hR a (hlt a ha d List.mem_cons_self)]; rfl⟩

end ZwVerif
