import ZwVerif.Model.Parser
/-!
# C14 — any byte string is either compiled or rejected with an error through the API

The lexer, parser and name checker models are total functions into `Except`; the
API wrapper `capture_errors` (libzwergP.hh) is modelled outright and its contract
proved: NULL / false is returned exactly when the error object is set, and the
message is empty only if the exception's own `what ()` is.  Crashes, hangs, aborts
and reads beyond the given length are run-time behaviour: observed by the harness
(explicit-length buffer in front of an inaccessible page), not proved.
-/
namespace ZwVerif.C14
open ZwVerif

/-- what a callback handed to `capture_errors` can do -/
inductive Outcome (α : Type) where
  | value (a : α)
  | stdException (what : String)      -- anything derived from std::exception
  | otherException                    -- `catch (...)`

/-- `capture_errors (callback, fail_return, out_err)`: (returned value, error object) -/
def captureErrors {α : Type} (o : Outcome α) (failReturn : α) : α × Option String :=
  match o with
  | .value a => (a, none)
  | .stdException w => (failReturn, some w)
  | .otherException => (failReturn, some "unknown error")

/-- the contract for pointer-returning calls (`fail_return = NULL`): NULL ⇔ error set,
    provided the callback itself never returns NULL on success -/
theorem capture_contract {α : Type} (o : Outcome (Option α))
    (hsucc : ∀ a, o = .value a → a.isSome) :
    ((captureErrors o none).1.isNone ↔ (captureErrors o none).2.isSome) := by
  cases o with
  | value a => simpa [captureErrors, Option.isSome_iff_ne_none] using hsucc a rfl
  | stdException | otherException => simp [captureErrors]

/-- … and for bool-returning calls (`fail_return = false`, success returns true) -/
theorem capture_contract_bool (o : Outcome Bool) (hsucc : ∀ a, o = .value a → a = true) :
    ((captureErrors o false).1 = false ↔ (captureErrors o false).2.isSome) := by
  cases o with
  | value a => simpa [captureErrors] using hsucc a rfl
  | stdException | otherException => simp [captureErrors]

/-- the message is non-empty whenever the thrown exception's `what ()` is -/
theorem capture_message_nonempty {α : Type} (o : Outcome α) (f : α) (m : String)
    (h : (captureErrors o f).2 = some m) (hw : ∀ w, o = .stdException w → w ≠ "") : m ≠ "" := by
  cases o with
  | value a => cases h
  | stdException w => cases h; exact hw _ rfl
  | otherException => cases h; decide

/-- the front end is total: every byte string is compiled to a tree or rejected -/
theorem parse_total (n : Nat) (s : Bytes) :
    (∃ t, parseQuery n s = .ok t) ∨ (∃ e, parseQuery n s = .error e) := by
  cases h : parseQuery n s with
  | ok t => exact Or.inl ⟨t, rfl⟩
  | error e => exact Or.inr ⟨e, rfl⟩

/-- a NUL byte is an ordinary (invalid) input byte: alone (the sample input `[0]`) it is consumed by
    the catch-all rule and reported -/
theorem nul_is_reported :
    (match lexInitial (fun _ => .error "x") 5 [0] with
     | .error e => e == "Invalid character in input stream"
     | .ok _ => false) = true := by
  decide +kernel

/-- every error message the lexer / parser models produce is non-empty (the list is transcribed by
    hand: that it is complete is not part of the statement) -/
theorem lexer_messages_nonempty :
    ["fuel", "too few closing parentheses in embedded expression", "too many closing parentheses in embedded expression",
     "string literal not terminated", "Invalid character in input stream", "syntax error", "Invalid integer literal",
     "Integer literal out of range", "stoull", "String let requires a simple string", "invalid position assertion"].all
      (fun m => m ≠ "") = true := by simp

end ZwVerif.C14
