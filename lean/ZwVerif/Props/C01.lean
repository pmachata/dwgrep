import ZwVerif.Lemmas.Evs
/-!
# C01 — each construct acts on every input stack independently (stream semantics)

`sem` (Model/Sem.lean) is the documented meaning as a function on streams.  The
theorems here state which parts of it are input-independent *by construction*
and which order facts hold; that the pull engine of op.cc computes `sem` —
including the order in which `op_merge` serves its branches — is what the
query-level correspondence checks on generated programs.
-/
namespace ZwVerif.C01
open ZwVerif

/-- the node kinds `sem` runs frame by frame (`sem_perframe`): all but CAT, ALT, SCOPE, NOP and F_DEBUG, each of
    which has an equation of its own in `sem` -/
def PerFrame (t : Tree) : Prop :=
  t.tt ≠ .CAT ∧ t.tt ≠ .ALT ∧ t.tt ≠ .NOP ∧ t.tt ≠ .F_DEBUG ∧ t.tt ≠ .SCOPE

theorem sem_perframe (ctx : Ctx) (n : Nat) (t : Tree) (h : PerFrame t) (es : Evs) :
    sem ctx (n + 1) t es = mapFrames (sem1 ctx n t) es := by
  -- the catch-all equation of `sem`; each of its side conditions says that `t` is not one of the five
  rw [sem] <;> exact fun _ _ e => by simp [PerFrame, e, Tree.tt] at h

/-- **no construct remembers, drops or re-orders work because of stacks it saw earlier**
    (per-frame constructs): the result for a stream is the concatenation, in order, of the
    results for its parts — up to the first hard error, which ends everything. -/
theorem stream_is_concat (ctx : Ctx) (n : Nat) (t : Tree) (h : PerFrame t) (a b : Evs) :
    sem ctx (n + 1) t (a ++ b) = cutHard (sem ctx (n + 1) t a ++
      (b.flatMap fun | .frame f => sem1 ctx n t f | e => [e])) := by
  rw [sem_perframe ctx n t h, sem_perframe ctx n t h, mapFrames_append]
  rfl

/-- in particular the results for the second part do not depend on the first part at all,
    when the first part raised no hard error -/
theorem later_inputs_unaffected (ctx : Ctx) (n : Nat) (t : Tree) (h : PerFrame t) (a b : Evs)
    (ha : NoHard (sem ctx (n + 1) t a)) :
    sem ctx (n + 1) t (a ++ b) = sem ctx (n + 1) t a ++ sem ctx (n + 1) t b := by
  rw [stream_is_concat ctx n t h, cutHard_append_noHard _ _ ha, sem_perframe ctx n t h b]
  rfl

/-- a rotation is a permutation: the list `sem` rotates for `op_merge` still holds every branch once -/
theorem rotate_perm (l : List α) (k : Nat) : (rotate l k).Perm l :=
  List.perm_append_comm.trans (.of_eq (List.take_append_drop k l))

theorem rot_lt (n j : Nat) (h : 0 < n) : rot n j < n := Nat.mod_lt _ h

/-- the first input is served from branch 0 on; with `rotate_zero`: a construct fed ONE stack yields its
    alternatives left to right -/
theorem rot_first_input (n : Nat) : rot n 0 = 0 := by simp [rot]

theorem rotate_zero (l : List α) : rotate l 0 = l := by simp [rotate]

theorem _root_.ZwVerif.Val.pos_setPos (v : Val) (i : Nat) : (v.setPos i).pos = i := by cases v <;> rfl

/-- numbering a list with `posMap` gives the positions 0, 1, 2, … (what `elem` does to its results and `relem` to the
    reversed walk; the words themselves are not in the statement) -/
theorem posMap_pos (vs : List Val) : (posMap (fun i v => v.setPos i) vs).map Val.pos = List.range vs.length := by
  rw [posMap, List.map_map, List.range_eq_range', ← List.zipIdx_map_snd]
  exact List.map_congr_left fun x _ => Val.pos_setPos x.1 x.2

/-- sequence literals keep written order: the captured sequence lists the top values of the
    body's results in the order they were yielded -/
theorem capture_order (ctx : Ctx) (n : Nat) (pl : Payload) (c : Tree) (f : Frame)
    (hn : (sem ctx n c [.frame f]).hardMsg = none)
    (ht : ∀ g ∈ (sem ctx n c [.frame f]).frames, g.stk ≠ []) :
    (sem1 ctx (n + 1) (.node .CAPTURE pl [c]) f).frames =
      [{ f with stk := Val.seq 0 ((sem ctx n c [.frame f]).frames.filterMap (·.stk.head?)) :: f.stk }] := by
  have hall : ((sem ctx n c [.frame f]).frames.map fun g => g.stk.head?).any Option.isNone = false := by
    simpa [List.any_eq_false] using ht
  simp only [sem1, hn, hall, Bool.false_eq_true, if_false]
  rw [Evs.frames_append, NoFrame.frames_eq_nil, List.filterMap_map]
  · rfl
  · exact noFrame_filter _ fun _ => rfl

end ZwVerif.C01
