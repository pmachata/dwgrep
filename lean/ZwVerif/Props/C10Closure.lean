import ZwVerif.Model.Closure
/-!
# C10 (mechanism) — the op_tr_closure machine yields exactly the stacks reachable from its input,
each once, the input first

For `E*` in front of one upstream stack `s`, ANY terminating drain of the machine yields a list
`outs` with: `s` first; no stack twice; every yielded stack reachable from `s` by steps of the
body; and every reachable stack yielded (`star_sound_complete`).  For `E+` the same holds of the
stacks reachable in one or more steps, `s` itself being expanded without being yielded
(`plus_sound_complete`).  Termination is a hypothesis (the drain exists): it can hold only when
finitely many stacks are reachable (they are all in `outs`); that it then does is not proved.
-/
namespace ZwVerif.Closure
variable {α : Type}

/-- reachable from `s` by one or more steps of the body -/
inductive ReachP (f : α → List α) (s : α) : α → Prop
  | base {z : α} : z ∈ f s → ReachP f s z
  | step {y z : α} : ReachP f s y → z ∈ f y → ReachP f s z

section
variable {f : α → List α} {s x y : α} {xs ys rest : List α} {R : α → Prop} {plus : Bool} {st st1 st' : St α}
  {r : Option α}

theorem Reach.eq_or_reachP (h : Reach f s x) : x = s ∨ ReachP f s x := by
  induction h with
  | refl => exact .inl rfl
  | step _ hz ih => exact .inr (ih.elim (fun h => .base (h ▸ hz)) (.step · hz))

theorem OpDry.eq (h : OpDry st st1) : st1 = { st with drained := true } ∧ (st.drained = false → st.pend = []) := by
  cases h with
  | was hd => exact ⟨by cases st; cases hd; rfl, fun h => nomatch hd.symm.trans h⟩
  | now _ hp => exact ⟨rfl, fun _ => hp⟩

/-- What holds between two pulls while the machine works on input `s` (upstream already taken), for
    `E*` and `E+` alike; `R` is the reachability the seen stacks are to have (`s` is seen for `E*`,
    and for `E+` only if the body leads back to it).  `pend` means something only while the body
    is not drained. -/
structure Inv (f : α → List α) (s : α) (R : α → Prop) (st : St α) : Prop where
  hup : st.up = []
  hreach : ∀ x ∈ st.seen, R x
  hstks : st.stks ⊆ st.seen
  hpend : st.drained = false → ∀ z ∈ st.pend, R z
  /-- `s` and every seen stack is waiting, or what the body yields for it is seen or still pending -/
  hexp : ∀ y, y = s ∨ y ∈ st.seen → y ∈ st.stks ∨ ∀ z ∈ f y, z ∈ st.seen ∨ st.drained = false ∧ z ∈ st.pend

theorem Inv.waiting_or_closed (hi : Inv f s R st) (hp : st.drained = false → st.pend = [])
    (hy : y = s ∨ y ∈ st.seen) : y ∈ st.stks ∨ ∀ z ∈ f y, z ∈ st.seen :=
  (hi.hexp y hy).imp_right fun h z hz => (h z hz).elim id fun ⟨hd, hz⟩ => absurd (hp hd ▸ hz) List.not_mem_nil

theorem Inv.cache (hi : Inv f s R st) (hx : R x) :
    Inv f s R { st with seen := x :: st.seen, stks := x :: st.stks } where
  hup := hi.hup
  hreach := List.forall_mem_cons.2 ⟨hx, hi.hreach⟩
  hstks := List.cons_subset_cons x hi.hstks
  hpend := hi.hpend
  hexp y hy := by
    have old hy := (hi.hexp y hy).imp (List.mem_cons_of_mem x) fun h z hz => (h z hz).imp_left (List.mem_cons_of_mem x)
    simp only [List.mem_cons] at hy
    rcases hy with hy | rfl | hy
    · exact old (.inl hy)
    · exact .inl List.mem_cons_self
    · exact old (.inr hy)

theorem Inv.skip (hi : Inv f s R st) (hp : st.pend = x :: xs) (hx : x ∈ st.seen) : Inv f s R { st with pend := xs } where
  hup := hi.hup
  hreach := hi.hreach
  hstks := hi.hstks
  hpend hd z hz := hi.hpend hd z (hp ▸ List.mem_cons_of_mem _ hz)
  hexp y hy := (hi.hexp y hy).imp_right fun h z hz => (h z hz).elim .inl fun ⟨hd, hz⟩ => by
    rcases List.mem_cons.1 (hp ▸ hz) with rfl | hz
    · exact .inl hx
    · exact .inr ⟨hd, hz⟩

theorem Inv.send (hR : ∀ y z, y = s ∨ R y → z ∈ f y → R z) (hi : Inv f s R st)
    (hp : st.drained = false → st.pend = []) (hst : st.stks = y :: ys) :
    Inv f s R { st with stks := ys, cur := some y, pend := f y, drained := false } where
  hup := hi.hup
  hreach := hi.hreach
  hstks _ hz := hi.hstks (hst ▸ List.mem_cons_of_mem y hz)
  hpend _ z := hR y z (.inr (hi.hreach y (hi.hstks (hst ▸ List.mem_cons_self))))
  hexp z hz := by
    rcases hi.waiting_or_closed hp hz with h | h
    · rcases List.mem_cons.1 (hst ▸ h) with rfl | h
      · exact .inr fun z hz => .inr ⟨rfl, hz⟩
      · exact .inl h
    · exact .inr fun z hz => .inl (h z hz)

/-- One pull inside the invariant.  The upstream is empty there, so the machine never takes an input,
    and `E*` and `E+` do the same.  (`generalizing := false`: the `match` is to read `r` off, not to abstract it in
    `h` as well; a caller whose `r` is `some x` or `none` gets the matching arm by `h.inv hR hi`.) -/
theorem Next.inv (hR : ∀ y z, y = s ∨ R y → z ∈ f y → R z) (h : Next f plus st r st') (hi : Inv f s R st) :
    match (generalizing := false) r with
    | some x => Inv f s R st' ∧ x ∉ st.seen ∧ R x ∧ st'.seen = x :: st.seen
    | none => ∀ x, ReachP f s x → x ∈ st.seen := by
  induction h with
  | opYield hd hp hx =>
    -- `yield_and_cache`: cache `x`, then drop it from `pend` as a seen stack
    have hrx := hi.hpend hd _ (hp ▸ List.mem_cons_self)
    exact ⟨(hi.cache hrx).skip hp List.mem_cons_self, hx, hrx, rfl⟩
  | opSkip _ hp hx _ ih => exact ih (hi.skip hp hx)
  | sendCached hdry hst _ ih =>
    obtain ⟨rfl, hp⟩ := hdry.eq
    have hi' := hi.send hR hp hst  -- not inline: `ih`'s type would make `Inv.send`'s `st` the dried state
    exact ih hi'
  | plusFeed _ hdry _ hu | starInput _ hdry _ hu =>
    obtain ⟨rfl, _⟩ := hdry.eq
    cases hi.hup.symm.trans hu
  | plusEnd _ hdry hst | starEnd _ hdry hst =>
    obtain ⟨rfl, hp⟩ := hdry.eq
    -- nothing waits and the body is dry: the seen set is closed under the body and holds `f s`
    have hcl y hy := (hi.waiting_or_closed (y := y) hp hy).resolve_left (hst ▸ List.not_mem_nil)
    intro x hx
    induction hx with
    | base hz => exact hcl s (.inl rfl) _ hz
    | step _ hz ih => exact hcl _ (.inr ih) _ hz

theorem Drain.inv (hR : ∀ y z, y = s ∨ R y → z ∈ f y → R z) (h : Drain f plus st xs st') (hi : Inv f s R st) :
    xs.Nodup ∧ (∀ x ∈ xs, x ∉ st.seen ∧ R x) ∧ ∀ x, ReachP f s x → x ∈ st.seen ∨ x ∈ xs := by
  induction h with
  | nil hn => exact ⟨.nil, nofun, fun x hx => .inl (hn.inv hR hi x hx)⟩
  | cons hn _ ih =>
    obtain ⟨hi', hx, hrx, hseen⟩ := hn.inv hR hi
    obtain ⟨hnd, hnew, hall⟩ := ih hi'
    simp only [hseen, List.mem_cons, not_or] at hnew hall
    refine ⟨List.nodup_cons.2 ⟨fun h => (hnew _ h).1.1 rfl, hnd⟩,
      List.forall_mem_cons.2 ⟨⟨hx, hrx⟩, fun y hy => ⟨(hnew y hy).1.2, (hnew y hy).2⟩⟩, fun y hy => ?_⟩
    rcases hall y hy with (h | h) | h
    · exact .inr (h ▸ List.mem_cons_self)
    · exact .inl h
    · exact .inr (List.mem_cons_of_mem _ h)

theorem Next.of_idle (hd : st.drained = true) (hst : st.stks = []) (hu : st.up = s :: rest) (h : Next f plus st r st') :
    match (generalizing := false) plus with
    | false => r = some s ∧ st' = { st with up := rest, seen := [s], stks := [s] }
    | true => Next f true { st with up := rest, seen := [], cur := some s, pend := f s, drained := false } r st' := by
  cases h with
  | opYield hd' | opSkip hd' => cases hd.symm.trans hd'
  | sendCached hdry hst' => obtain ⟨rfl, _⟩ := hdry.eq; cases hst.symm.trans hst'
  | plusEnd _ hdry _ hu' | starEnd _ hdry _ hu' => obtain ⟨rfl, _⟩ := hdry.eq; cases hu.symm.trans hu'
  | plusFeed hp hdry _ hu' hn =>
    obtain ⟨rfl, _⟩ := hdry.eq
    cases hp; cases hu.symm.trans hu'; exact hn
  | starInput hp hdry _ hu' =>
    obtain ⟨rfl, _⟩ := hdry.eq
    cases hp; cases hu.symm.trans hu'; exact ⟨rfl, hd ▸ rfl⟩

end

/-- **`E*` in front of one input: the input first, then exactly the reachable stacks, each once** -/
theorem star_sound_complete (f : α → List α) (s : α) (outs : List α) (st' : St α)
    (h : Drain f false (init [s]) outs st') :
    outs.head? = some s ∧ outs.Nodup ∧ (∀ x ∈ outs, Reach f s x) ∧ (∀ x, Reach f s x → x ∈ outs) := by
  cases h with
  | nil hn => cases (hn.of_idle rfl rfl rfl).1
  | cons hn hd =>
    obtain ⟨⟨⟩, rfl⟩ := hn.of_idle rfl rfl rfl
    -- the input has been yielded: seen = [s], stks = [s], body drained
    have hR y z (hy : y = s ∨ Reach f s y) : z ∈ f y → Reach f s z := (hy.elim (· ▸ .refl) id).step
    obtain ⟨hnd, hnew, hall⟩ := hd.inv hR {
      hup := rfl
      hreach := fun x hx => List.mem_singleton.1 hx ▸ .refl
      hstks := List.Subset.refl _
      hpend := nofun
      hexp := fun y hy => .inl (List.mem_singleton.2 (hy.elim id List.mem_singleton.1)) }
    refine ⟨rfl, List.nodup_cons.2 ⟨fun h => (hnew s h).1 List.mem_cons_self, hnd⟩,
      List.forall_mem_cons.2 ⟨.refl, fun x hx => (hnew x hx).2⟩, fun x hx => ?_⟩
    rcases hx.eq_or_reachP with rfl | hx
    · exact List.mem_cons_self
    · exact (hall x hx).elim (fun h => List.mem_singleton.1 h ▸ List.mem_cons_self) (List.mem_cons_of_mem _)

/-- **`E+` in front of one input: exactly the stacks reachable in one or more steps, each once** -/
theorem plus_sound_complete (f : α → List α) (s : α) (outs : List α) (st' : St α)
    (h : Drain f true (init [s]) outs st') :
    outs.Nodup ∧ (∀ x ∈ outs, ReachP f s x) ∧ (∀ x, ReachP f s x → x ∈ outs) := by
  -- a drain of the fresh machine is a drain of the state in which `s` has been fed to the body
  have hd : Drain f true { (init [s] : St α) with up := [], seen := [], cur := some s, pend := f s, drained := false }
      outs st' := by
    cases h with
    | nil hn => exact .nil (hn.of_idle rfl rfl rfl)
    | cons hn hrest => exact .cons (hn.of_idle rfl rfl rfl) hrest
  have hR y z (hy : y = s ∨ ReachP f s y) (hz : z ∈ f y) : ReachP f s z := hy.elim (fun h => .base (h ▸ hz)) (.step · hz)
  obtain ⟨hnd, hnew, hall⟩ := hd.inv hR {
    hup := rfl
    hreach := nofun
    hstks := nofun
    hpend := fun _ _ => .base
    hexp := fun y hy => .inr fun z hz => .inr ⟨rfl, hy.elim (· ▸ hz) nofun⟩ }
  exact ⟨hnd, fun x hx => (hnew x hx).2, fun x hx => (hall x hx).resolve_left List.not_mem_nil⟩

/-- non-vacuity: the machine on a 3-cycle with a spur does drain, in this order -/
example : ∃ st', Drain (fun n : Nat => if n = 0 then [1, 3] else if n = 1 then [2] else if n = 2 then [0] else []) false
    (init [0]) [0, 1, 3, 2] st' := by
  apply Exists.intro
  apply Drain.cons (Next.starInput rfl (OpDry.was rfl) rfl rfl)
  apply Drain.cons (Next.sendCached (OpDry.was rfl) rfl (Next.opYield rfl rfl (by simp)))
  apply Drain.cons (Next.opYield rfl rfl (by simp))
  apply Drain.cons (Next.sendCached (OpDry.now rfl rfl) rfl
    (Next.sendCached (OpDry.now rfl rfl) rfl (Next.opYield rfl rfl (by simp))))
  apply Drain.nil
  apply Next.sendCached (OpDry.now rfl rfl) rfl
  apply Next.opSkip rfl rfl (by simp)
  exact Next.starEnd rfl (OpDry.now rfl rfl) rfl rfl

end ZwVerif.Closure
