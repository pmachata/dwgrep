import ZwVerif.Model.Pipe
import ZwVerif.Props.C04SubOps
/-!
# C01 — stages compose: the stream an operator yields is the concatenation of what it yields per input

`nest U C comb` feeds every item of the upstream `U` to the chain `C` and combines.  For EVERY
upstream machine (any state space, any `next`), if pulling `U` dry yields the list `L`, then pulling
`nest U C comb` dry yields, item by item of `L` in order, what `C` yields for that item
(`nest_refines`) — and nothing else (`nest_only_behaviour`, given deterministic parts).  Since a
`nest` over a chain is again a chain (`Chain.comp`), this covers pipelines of any length: what a
CAT of stages yields for one input is the Kleisli composition of what its stages yield
(`comp_f`), and the whole stream is the concatenation over the inputs (`pipeline_refines`).
No result of one input depends on an earlier input: every chain is back at `idle` when it is fed.
-/
namespace ZwVerif.Pipe
variable {α β γ δ : Type}

theorem Mach.drain_iff (M : Mach γ) {st s : M.σ} {o : List γ} : M.Drain st o s ↔ SubOps.DrainR M.next st o s := by
  constructor <;> intro h <;> induction h with
  | nil h => exact .nil h
  | cons h _ ih => exact .cons h ih

theorem drain_det (M : Mach γ) (hd : M.Det) (st : M.σ) (o1 : List γ) (s1 : M.σ) (h1 : M.Drain st o1 s1) :
    ∀ (o2 : List γ) (s2 : M.σ), M.Drain st o2 s2 → o1 = o2 ∧ s1 = s2 := fun _ _ h2 =>
  SubOps.drainR_det hd (M.drain_iff.1 h1) (M.drain_iff.1 h2)

theorem Mach.Drain.of_next (M : Mach γ) {st st2 : M.σ} {o : List γ} {s : M.σ}
    (e : ∀ r s', M.next st2 r s' → M.next st r s') (h : M.Drain st2 o s) : M.Drain st o s := by
  cases h with
  | nil h' => exact .nil (e _ _ h')
  | cons h' hd => exact .cons (e _ _ h') hd

theorem nest_det (U : Mach α) (C : Chain α β) (comb : α → β → γ) (hU : U.Det) : (nest U C comb).Det := by
  intro st r1 s1 r2 s2 h1 h2
  induction h1 with
  | pull hu _ ih =>
    cases h2 with
    | pull hu2 hn2 => obtain ⟨⟨⟩, rfl⟩ := hU _ _ _ _ _ hu hu2; exact ih hn2
    | endUp hu2 => cases (hU _ _ _ _ _ hu hu2).1
  | endUp hu =>
    cases h2 with
    | pull hu2 _ => cases (hU _ _ _ _ _ hu hu2).1
    | endUp hu2 => obtain ⟨_, rfl⟩ := hU _ _ _ _ _ hu hu2; exact ⟨rfl, rfl⟩
  | yield hc =>
    cases h2 with
    | yield hc2 => obtain ⟨⟨⟩, rfl⟩ := C.det _ _ _ _ _ hc hc2; exact ⟨rfl, rfl⟩
    | dry hc2 _ => cases (C.det _ _ _ _ _ hc hc2).1
  | dry hc _ ih =>
    cases h2 with
    | yield hc2 => cases (C.det _ _ _ _ _ hc hc2).1
    | dry hc2 hn2 => obtain ⟨_, rfl⟩ := C.det _ _ _ _ _ hc hc2; exact ih hn2

theorem nest_item (U : Mach α) (C : Chain α β) (comb : α → β → γ) {u : U.σ} {a : α} {R : List γ} {fin : NestSt U C}
    {c cf : C.M.σ} {ys : List β} (hc : C.M.Drain c ys cf)
    (hrest : (nest U C comb).Drain (u, none, cf) R fin) :
    (nest U C comb).Drain (u, some a, c) (ys.map (comb a) ++ R) fin := by
  induction hc with
  | nil h => exact Mach.Drain.of_next (nest U C comb) (fun _ _ hn => .dry h hn) hrest
  | cons h _ ih => exact .cons (M := nest U C comb) (.yield h) (ih hrest)

/-- **stages compose**: whatever the upstream is, `nest` yields, item by item, what the chain yields -/
theorem nest_refines (U : Mach α) (C : Chain α β) (comb : α → β → γ) (u ufin : U.σ) (L : List α)
    (h : U.Drain u L ufin) :
    (nest U C comb).Drain (u, none, C.idle) (nestSpec C.f comb L) (ufin, none, C.idle) := by
  induction h with
  | nil hu => exact .nil (M := nest U C comb) (.endUp hu)
  | cons hu _ ih =>
    exact Mach.Drain.of_next (nest U C comb) (fun _ _ hn => .pull hu hn) (nest_item U C comb (C.ok _) ih)

theorem nest_only_behaviour (U : Mach α) (C : Chain α β) (comb : α → β → γ) (hU : U.Det) (u ufin : U.σ) (L : List α)
    (h : U.Drain u L ufin) (out : List γ) (fin : NestSt U C)
    (ho : (nest U C comb).Drain (u, none, C.idle) out fin) : out = nestSpec C.f comb L :=
  (drain_det _ (nest_det U C comb hU) _ _ _ ho _ _ (nest_refines U C comb u ufin L h)).1

theorem nestNum_item (U : Mach α) (C : Chain α β) (comb : α → β → Nat → γ) {u : U.σ} {a : α} {R : List γ}
    {ufin : U.σ} {c cf cfin : C.M.σ} {ys : List β} (hc : C.M.Drain c ys cf)
    (hrest : ∀ k, ∃ m, (nestNum U C comb).Drain (u, none, cf, k) R (ufin, none, cfin, m)) :
    ∀ k, ∃ m, (nestNum U C comb).Drain (u, some a, c, k) (numFrom (comb a) k ys ++ R) (ufin, none, cfin, m) := by
  induction hc with
  | nil h => exact fun k => (hrest k).imp fun _ d => Mach.Drain.of_next (nestNum U C comb) (fun _ _ hn => .dry h hn) d
  | cons h _ ih => exact fun k => (ih hrest (k + 1)).imp fun _ d => .cons (M := nestNum U C comb) (.yield h) d

/-- **fresh numbering**: what an operator yields for an input is numbered from zero, whatever the counter stood at -/
theorem nestNum_refines (U : Mach α) (C : Chain α β) (comb : α → β → Nat → γ) (u ufin : U.σ) (L : List α)
    (h : U.Drain u L ufin) :
    ∀ n, ∃ m, (nestNum U C comb).Drain (u, none, C.idle, n) (numSpec C.f comb L) (ufin, none, C.idle, m) := by
  induction h with
  | nil hu => exact fun n => ⟨n, .nil (M := nestNum U C comb) (.endUp hu)⟩
  | cons hu _ ih =>
    -- `pull` sets the counter to 0; the rest is drained from whatever counter the item leaves
    exact fun n => (nestNum_item U C comb (C.ok _) ih 0).imp fun _ d =>
      Mach.Drain.of_next (nestNum U C comb) (fun _ _ hn => .pull hu hn) d

theorem listSrc_det : (listSrc α).Det := by
  intro st r1 s1 r2 s2 h1 h2
  cases st <;> exact ⟨h1.1.trans h2.1.symm, h1.2.trans h2.2.symm⟩

theorem listSrc_drain (l : List α) : (listSrc α).Drain l l [] := by
  induction l with
  | nil => exact .nil (M := listSrc α) (st := ([] : List α)) ⟨rfl, rfl⟩
  | cons x xs ih => exact .cons (M := listSrc α) (st := x :: xs) ⟨rfl, rfl⟩ ih

theorem originSrc_det : (originSrc α).Det := by
  intro st r1 s1 r2 s2 h1 h2
  exact ⟨h1.1.trans h2.1.symm, h1.2.trans h2.2.symm⟩

/-- **the whole stream**: an operator in front of the inputs `ups` yields the concatenation, over the inputs in
    order, of what its chain yields for each -/
theorem pipeline_refines (C : Chain α β) (comb : α → β → γ) (ups : List α) :
    (nest (listSrc α) C comb).Drain (ups, none, C.idle) (nestSpec C.f comb ups) ([], none, C.idle) :=
  nest_refines (listSrc α) C comb ups [] ups (listSrc_drain ups)

theorem pipeline_only_behaviour (C : Chain α β) (comb : α → β → γ) (ups : List α) (out : List γ)
    (fin : NestSt (listSrc α) C) (h : (nest (listSrc α) C comb).Drain (ups, none, C.idle) out fin) :
    out = nestSpec C.f comb ups :=
  nest_only_behaviour (listSrc α) C comb listSrc_det ups [] ups (listSrc_drain ups) out fin h

def Chain.comp (C1 : Chain α β) (C2 : Chain β γ) (comb : β → γ → δ) : Chain α δ where
  M := nest C1.M C2 comb
  idle := (C1.idle, none, C2.idle)
  feed := fun st a => (C1.feed st.1 a, st.2.1, st.2.2)
  f := fun a => nestSpec C2.f comb (C1.f a)
  ok := fun a => nest_refines C1.M C2 comb (C1.feed C1.idle a) C1.idle (C1.f a) (C1.ok a)
  det := nest_det C1.M C2 comb C1.det

/-- what a two-stage pipeline yields for one input is the Kleisli composition of its stages -/
theorem comp_f (C1 : Chain α β) (C2 : Chain β γ) (a : α) :
    (C1.comp C2 (fun _ y => y)).f a = (C1.f a).flatMap C2.f := by
  simp [Chain.comp, nestSpec]

/-- … and for three stages, bracketed either way -/
theorem comp_assoc_f (C1 : Chain α β) (C2 : Chain β γ) (C3 : Chain γ δ) (a : α) :
    ((C1.comp C2 (fun _ y => y)).comp C3 (fun _ y => y)).f a = (C1.comp (C2.comp C3 (fun _ y => y)) (fun _ y => y)).f a := by
  simp [Chain.comp, nestSpec, List.flatMap_assoc]

/-! ### the leaf: a sub-expression seen from its origin (Model/SubOps) -/

def bodyMach (f : α → List β) : Mach β where
  σ := SubOps.Body α β
  next := fun st r st' => (SubOps.Body.next f st) = (r, st')

/-- an abstract operator chain as a `Chain`: fed through its origin, it yields `f item` and is as good as new -/
def bodyChain (f : α → List β) : Chain α β where
  M := bodyMach f
  idle := SubOps.Body.fresh
  feed := fun b a => b.setNext a
  f := f
  ok := fun a => (bodyMach f).drain_iff.2 (SubOps.body_drain_fed f a).toR
  det := fun _ _ _ _ _ h1 h2 => Prod.mk.inj (h1.symm.trans h2)

/-- a pipeline of three abstract stages in front of the inputs: the stream is the per-input composition,
    concatenated — whatever the three stages do -/
theorem three_stage_pipeline (f1 : α → List β) (f2 : β → List γ) (f3 : γ → List δ) (ups : List α) :
    let C := ((bodyChain f1).comp (bodyChain f2) (fun _ y => y)).comp (bodyChain f3) (fun _ y => y)
    (nest (listSrc α) C (fun _ y => y)).Drain (ups, none, C.idle)
      (ups.flatMap fun a => ((f1 a).flatMap f2).flatMap f3) ([], none, C.idle) := by
  intro C
  have e : ∀ a, C.f a = ((f1 a).flatMap f2).flatMap f3 := fun a => by simp only [C, comp_f]; rfl
  simpa only [nestSpec, List.map_id', e] using pipeline_refines C (fun _ y => y) ups

/-! ### format strings: the stringer chain (stringer_origin, stringer_lit, stringer_op) under op_format -/

/-- a piece of a format string as the stringer chain sees it -/
inductive Piece (σ : Type) where
  /-- `stringer_lit`: prepends its text -/
  | lit (s : String)
  /-- `stringer_op`: runs the embedded program on the stack; for each result, the stack without its top and the top's
      rendering, which is prepended -/
  | splice (g : σ → List (σ × String))

def Piece.f {σ : Type} : Piece σ → (σ × String) → List (σ × String)
  | .lit s, (stk, acc) => [(stk, s ++ acc)]
  | .splice g, (stk, acc) => (g stk).map fun rs => (rs.1, rs.2 ++ acc)

/-- the chain from the origin outwards: pieces in the order they are applied (the format string read right to left) -/
def stringerChain {σ : Type} : List (Piece σ) → Chain (σ × String) (σ × String)
  | [] => bodyChain (fun x => [x])
  | p :: ps => (bodyChain p.f).comp (stringerChain ps) (fun _ y => y)

/-- what the chain yields for one (stack, "") : every piece applied to every result of the pieces before it -/
def stringerSpec {σ : Type} : List (Piece σ) → (σ × String) → List (σ × String)
  | [], x => [x]
  | p :: ps, x => (p.f x).flatMap (stringerSpec ps)

theorem stringerChain_f {σ : Type} (ps : List (Piece σ)) (x : σ × String) : (stringerChain ps).f x = stringerSpec ps x := by
  induction ps generalizing x with
  | nil => rfl
  | cons p ps ih =>
    simp only [stringerChain, stringerSpec, comp_f, funext ih]; rfl

/-- **op_format**: for every input stack, the strings the pieces build for it, numbered from zero for THAT input, each
    pushed on the stack its splices left — and the stream is the concatenation over the inputs -/
theorem format_refines {σ : Type} (ps : List (Piece σ)) (push : σ → String → Nat → σ) (ups : List (σ × String)) :
    ∀ n, ∃ m, (nestNum (listSrc (σ × String)) (stringerChain ps) (fun _ r k => push r.1 r.2 k)).Drain
      (ups, none, (stringerChain ps).idle, n)
      (ups.flatMap fun x => numFrom (fun (r : σ × String) k => push r.1 r.2 k) 0 (stringerSpec ps x))
      ([], none, (stringerChain ps).idle, m) := by
  simpa only [numSpec, stringerChain_f] using
    nestNum_refines (listSrc (σ × String)) (stringerChain ps) (fun _ r k => push r.1 r.2 k) ups [] ups (listSrc_drain ups)

/-- non-vacuity: `"%( 1,2 %)-%s"`-like: a two-valued splice in front of a literal in front of a one-valued splice -/
example : stringerSpec [Piece.splice (fun (s : List Nat) => [(s.tail, "7")]), Piece.lit "-",
      Piece.splice (fun s => [(s, "1"), (s, "2")])] ([7, 8], "") = [([8], "1-7"), ([8], "2-7")] := by
  decide

/-- non-vacuity: a concrete three-stage run -/
example : (([1, 2] : List Nat).flatMap fun a => ((List.range a).flatMap fun b => [b, b + 10]).flatMap fun c => [c * 2])
    = [0, 20, 0, 20, 2, 22] := by decide

end ZwVerif.Pipe
