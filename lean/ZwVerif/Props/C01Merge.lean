import ZwVerif.Model.Merge
import ZwVerif.Lemmas.Drain
/-!
# C01 (mechanism) — the op_merge / op_tine machine computes the ALT rule

`merge_refines`: draining the machine in front of ANY upstream, with ANY number of branches
(≥ 1) yielding ANY number of results each (none included), produces exactly `spec`: the
upstream stacks in order, each through all branches round the table, the branch that served
last pulling the next stack and serving it first — and leaves the machine in a state that is
again a fresh one (`Boundary 0 []`), so the same holds for the next drain (the F1 repair:
without the reset the second drain yields nothing).
-/
namespace ZwVerif.Merge
variable {α : Type}

/-! Round the table: `t ↦ (k + t) % n` permutes the `n` branch slots — distinct for distinct `t < n`
(`table_distinct`, `table_inj`), and onto (`table_surj`).  That is why the copies in `m_file` are told apart and
all taken when a round is over. -/

theorem table_distinct (n k t1 t2 : Nat) (h1 : t1 < t2) (h2 : t2 < n) : (k + t1) % n ≠ (k + t2) % n := by
  intro h
  have h3 := Nat.sub_mod_eq_zero_of_mod_eq h.symm
  rw [Nat.add_sub_add_left, Nat.mod_eq_of_lt (Nat.lt_of_le_of_lt (Nat.sub_le ..) h2)] at h3
  exact Nat.not_le_of_lt h1 (Nat.le_of_sub_eq_zero h3)

theorem table_inj {n k t1 t2 : Nat} (h1 : t1 < n) (h2 : t2 < n) (h : (k + t1) % n = (k + t2) % n) : t1 = t2 :=
  Nat.le_antisymm (Nat.le_of_not_lt fun lt => table_distinct n k t2 t1 lt h1 h.symm)
    (Nat.le_of_not_lt fun lt => table_distinct n k t1 t2 lt h2 h)

theorem table_surj (n k i : Nat) (hi : i < n) : ∃ t, t < n ∧ (k + t) % n = i := by
  have hn := Nat.zero_lt_of_lt hi
  refine ⟨(i + n - k % n) % n, Nat.mod_lt _ hn, ?_⟩
  rw [Nat.add_mod_mod, ← Nat.mod_add_mod,
    Nat.add_sub_cancel' (Nat.le_trans (Nat.le_of_lt (Nat.mod_lt k hn)) (Nat.le_add_left ..)),
    Nat.add_mod_right, Nat.mod_eq_of_lt hi]

theorem upd_keep {β : Type} {f : Nat → β} {i j : Nat} {v : β} (h : f j = v) : upd f i v j = v := by
  unfold upd; split <;> trivial

/-- between two upstream stacks: every copy taken, nothing pending, branch `k` pulls next -/
structure Boundary (c : Cfg α) (k : Nat) (up : List α) (st : St α) : Prop where
  hup : st.up = up
  hfile : AllNone c.n st.file
  hidx : st.idx = k
  hdone : st.done = false
  hpend : ∀ i, st.pend i = []

/-- inside the round of stack `s` that started at branch `k`: `m` branches are through, branch
    `(k+m) % n` is being served and has `p` still to yield -/
structure InRound (c : Cfg α) (k m : Nat) (p : List α) (s : α) (rest : List α) (st : St α) : Prop where
  hup : st.up = rest
  hidx : st.idx = (k + m) % c.n
  hdone : st.done = false
  hp : st.pend st.idx = p
  hpend : ∀ j, j ≠ st.idx → st.pend j = []
  hnone : ∀ t, t ≤ m → st.file ((k + t) % c.n) = none
  hsome : ∀ t, m < t → t < c.n → st.file ((k + t) % c.n) = some s

section
variable {c : Cfg α} {k m : Nat} {s : α} {rest : List α} {st : St α}

/-! ### steps without output, seen from outside: the merge goes on as from the state they lead to -/

theorem tine_take {i j : Nat} {r : Option α} (hd : st.done = false) (hj : j < c.n) (hs : st.file j = some s)
    (hr : st.file i = r) : Tine c i st r { st with file := upd st.file i none } :=
  hr ▸ .take hd fun ha => by simp [ha j hj] at hs

theorem merge_of_pull {st'' : St α} {u f r} (hd : st.done = false) (hp : st.pend st.idx = [])
    (ht : Tine c st.idx st (some s) { st with up := u, file := f })
    (h : Merge c { st with up := u, file := f, pend := upd st.pend st.idx (c.fs st.idx s) } r st'') :
    Merge c st r st'' := by
  cases h with
  | wasDone h => cases hd.symm.trans h
  | got _ hb => exact .got hd (.pull hp ht hb)
  | advance _ hb hd' hm => exact .advance hd (.pull hp ht hb) hd' hm
  | drained _ hb hd' => exact .drained hd (.pull hp ht hb) hd'

/-- a dry branch `i` whose copy is gone hands over to the next one, `i'`, which takes its copy
    (the two indices come with equations, substituted here, so that a caller may write them as it
    has them) -/
theorem merge_next {st'' : St α} {i i' : Nat} {r : Option α} (hd : st.done = false) (hp : ∀ j, st.pend j = [])
    (hidx : st.idx = i) (hi : (i + 1) % c.n = i') (hn : st.file i = none) (hlt : i' < c.n)
    (hs : st.file i' = some s)
    (h : Merge c { st with idx := i', file := upd (upd st.file i none) i' none,
                           pend := upd st.pend i' (c.fs i' s) } r st'') : Merge c st r st'' := by
  subst hidx hi
  have hne : (st.idx + 1) % c.n ≠ st.idx := fun e => by rw [e, hn] at hs; cases hs
  have hs2 := (upd_other (v := none) hne).trans hs
  exact .advance hd (.dry (hp _) (tine_take hd hlt hs hn)) hd
    (merge_of_pull (st := { st with idx := _, file := _ }) hd (hp _) (tine_take hd hlt hs2 hs2) h)

theorem Drain.of_next {st3 st'' : St α} {out : List α} (h : ∀ r st'', Merge c st3 r st'' → Merge c st r st'')
    (hd : Drain c st3 out st'') : Drain c st out st'' := by
  cases hd with
  | nil hm => exact .nil (h _ _ hm)
  | cons hm hrest => exact .cons (h _ _ hm) hrest

theorem InRound.yield {x xs} (hr : InRound c k m (x :: xs) s rest st) :
    ∃ st', Merge c st (some x) st' ∧ InRound c k m xs s rest st' :=
  ⟨{ st with pend := upd st.pend st.idx xs }, .got hr.hdone (.yield hr.hp),
    { hr with hp := upd_same .., hpend := fun j hj => (upd_other hj).trans (hr.hpend j hj) }⟩

theorem InRound.flush {p} (hr : InRound c k m p s rest st) :
    ∃ st1, InRound c k m [] s rest st1 ∧ ∀ out st', Drain c st1 out st' → Drain c st (p ++ out) st' := by
  induction p generalizing st with
  | nil => exact ⟨st, hr, fun _ _ h => h⟩
  | cons x xs ih =>
    obtain ⟨_, hm, hr'⟩ := hr.yield
    obtain ⟨st1, hr1, h1⟩ := ih hr'
    exact ⟨st1, hr1, fun out st' h => .cons hm (h1 out st' h)⟩

theorem InRound.pend_nil (hr : InRound c k m [] s rest st) (j : Nat) : st.pend j = [] := by
  by_cases h : j = st.idx
  · exact h ▸ hr.hp
  · exact hr.hpend j h

theorem InRound.next (hr : InRound c k m [] s rest st) (hm : m + 1 < c.n) :
    ∃ st3, InRound c k (m + 1) (c.fs ((k + (m + 1)) % c.n) s) s rest st3 ∧
      ∀ r st'', Merge c st3 r st'' → Merge c st r st'' := by
  have hpend := hr.pend_nil
  have hs := hr.hsome (m + 1) (Nat.lt_succ_self m) hm
  refine ⟨{ st with idx := (k + (m + 1)) % c.n,
                    file := upd (upd st.file ((k + m) % c.n) none) ((k + (m + 1)) % c.n) none,
                    pend := upd st.pend ((k + (m + 1)) % c.n) (c.fs ((k + (m + 1)) % c.n) s) },
    ⟨hr.hup, rfl, hr.hdone, upd_same .., fun j hj => (upd_other hj).trans (hpend j), ?_, ?_⟩,
    fun r st'' => merge_next hr.hdone hpend hr.hidx (Nat.mod_add_mod ..) (hr.hnone m (Nat.le_refl m))
      (Nat.mod_lt _ (Nat.zero_lt_of_lt hm)) hs⟩
  · intro t ht
    rcases Nat.lt_or_eq_of_le ht with h | rfl
    · exact upd_keep (upd_keep (hr.hnone t (Nat.le_of_lt_succ h)))
    · exact upd_same ..
  · intro t h1 h2
    have h0 := Nat.lt_of_succ_lt h1
    exact (upd_other (table_distinct c.n k (m + 1) t h1 h2).symm).trans <|
      (upd_other (table_distinct c.n k m t h0 h2).symm).trans (hr.hsome t h0 h2)

theorem InRound.last (hr : InRound c k m [] s rest st) (hm : m + 1 = c.n) :
    Boundary c ((k + c.n - 1) % c.n) rest st where
  hup := hr.hup
  hfile i hi := by
    obtain ⟨t, ht, rfl⟩ := table_surj c.n k i hi
    exact hr.hnone t (by omega)
  hidx := by rw [hr.hidx]; congr 1; omega
  hdone := hr.hdone
  hpend := hr.pend_nil

theorem init_boundary (c : Cfg α) (up : List α) : Boundary c 0 up (init up) :=
  ⟨rfl, fun _ _ => rfl, rfl, rfl, fun _ => rfl⟩

/-- branch `k` pulls the next stack: every branch gets its copy (`(k + 0) % c.n` is `k`, spelt as
    `InRound.finish` takes it) -/
theorem Boundary.fill (hb : Boundary c k (s :: rest) st) (hk : k < c.n) :
    ∃ st3, InRound c k 0 (c.fs ((k + 0) % c.n) s) s rest st3 ∧
      ∀ r st'', Merge c st3 r st'' → Merge c st r st'' := by
  have hk0 : (k + 0) % c.n = k := Nat.mod_eq_of_lt hk
  obtain ⟨hup, hfile, rfl, hdone, hpend⟩ := hb
  refine ⟨{ st with up := rest, file := upd (fun _ => some s) st.idx none,
                    pend := upd st.pend st.idx (c.fs st.idx s) },
    ⟨rfl, hk0.symm, hdone, ?_, fun j hj => (upd_other hj).trans (hpend j), ?_, ?_⟩,
    fun r st'' => merge_of_pull hdone (hpend _) (.fill hdone hfile hup)⟩
  · rw [hk0]; exact upd_same ..
  · intro t ht
    obtain rfl := Nat.le_zero.1 ht
    rw [hk0]; exact upd_same (fun _ => some s) ..
  · intro t h1 h2
    exact upd_other (f := fun _ => some s) fun h => table_distinct c.n st.idx 0 t h1 h2 (hk0.trans h.symm)

theorem Boundary.dry (hb : Boundary c k [] st) : ∃ st', Merge c st none st' ∧ Boundary c 0 [] st' :=
  ⟨_, .drained hb.hdone (.dry (hb.hpend _) (.dry hb.hdone hb.hfile hb.hup)) rfl,
    { hb with hidx := rfl, hdone := rfl }⟩

/-- from a branch that has just got its results to the end of the round; stated from there so that
    the output is a `round` as `spec` unfolds it -/
theorem InRound.finish (d : Nat) (hm : m + 1 + d = c.n) (hr : InRound c k m (c.fs ((k + m) % c.n) s) s rest st) :
    ∃ st1, Boundary c ((k + c.n - 1) % c.n) rest st1 ∧
      ∀ out st', Drain c st1 out st' → Drain c st (round c (k + m) s (d + 1) ++ out) st' := by
  induction d generalizing m st with
  | zero =>
    obtain ⟨st1, hr1, h1⟩ := hr.flush
    exact ⟨st1, hr1.last hm, fun out st' h => by
      rw [round, round, List.append_nil]; exact h1 out st' h⟩
  | succ d ih =>
    obtain ⟨st1, hr1, h1⟩ := hr.flush
    obtain ⟨_, hr2, h2⟩ := hr1.next (by omega)
    obtain ⟨st3, hb, h3⟩ := ih (by omega) hr2
    exact ⟨st3, hb, fun out st' h => by
      rw [round, List.append_assoc]; exact h1 _ _ (Drain.of_next h2 (h3 out st' h))⟩

theorem boundary_drain {up : List α} (hk : k < c.n) (hb : Boundary c k up st) :
    ∃ st', Drain c st (spec c k up) st' ∧ Boundary c 0 [] st' := by
  induction up generalizing k st with
  | nil =>
    obtain ⟨st', hm, hb'⟩ := hb.dry
    exact ⟨st', .nil hm, hb'⟩
  | cons s rest ih =>
    obtain ⟨d, hd⟩ : ∃ d, d + 1 = c.n := ⟨c.n - 1, by omega⟩
    obtain ⟨st1, hr1, h1⟩ := hb.fill hk
    obtain ⟨st2, hb2, h2⟩ := hr1.finish d (by omega)
    obtain ⟨st', hd', hb'⟩ := ih (Nat.mod_lt _ (Nat.zero_lt_of_lt hk)) hb2
    have := Drain.of_next h1 (h2 _ _ hd')
    rw [hd] at this
    exact ⟨st', this, hb'⟩

end

/-- **the machine computes the ALT rule, for every upstream, every number of branches and every
    branch behaviour, and ends fresh** — a branch's behaviour being what it yields for the one stack it is
    handed (`Cfg.fs`): a branch with state of its own across stacks (a nested ALT) is not of that kind -/
theorem merge_refines (c : Cfg α) (hn : 0 < c.n) (up : List α) :
    ∃ st', Drain c (init up) (spec c 0 up) st' ∧ Boundary c 0 [] st' :=
  boundary_drain hn (init_boundary c up)

/-- … and therefore also the second time it is drained (the F1 repair): from the state a drain
    leaves behind, with the upstream fed again, the same holds -/
theorem merge_reusable (c : Cfg α) (hn : 0 < c.n) (up2 : List α) (st : St α) (hb : Boundary c 0 [] st) :
    ∃ st', Drain c { st with up := up2 } (spec c 0 up2) st' ∧ Boundary c 0 [] st' :=
  boundary_drain hn { hb with hup := rfl }

/-! ### the pull relations are functions: the machine has one behaviour

Two derivations from one state use the same constructor: the guards of different ones exclude each
other (`simp_all`), or the relation below would have yielded two different things. -/

theorem tine_det {c : Cfg α} {i : Nat} {st s1 s2 : St α} {r1 r2 : Option α}
    (h1 : Tine c i st r1 s1) (h2 : Tine c i st r2 s2) : r1 = r2 ∧ s1 = s2 := by
  cases h1 <;> cases h2 <;> simp_all

theorem branch_det {c : Cfg α} {i : Nat} {st s1 s2 : St α} {r1 r2 : Option α}
    (h1 : Branch c i st r1 s1) (h2 : Branch c i st r2 s2) : r1 = r2 ∧ s1 = s2 := by
  induction h1 generalizing r2 s2 with
  | yield => cases h2 <;> simp_all
  | dry _ ht =>
    cases h2 with
    | yield => simp_all
    | dry _ ht2 => exact tine_det ht ht2
    | pull _ ht2 => cases (tine_det ht ht2).1
  | pull _ ht _ ih =>
    cases h2 with
    | yield => simp_all
    | dry _ ht2 => cases (tine_det ht ht2).1
    | pull _ ht2 hb2 =>
      obtain ⟨⟨⟩, rfl⟩ := tine_det ht ht2
      exact ih hb2

theorem merge_det (c : Cfg α) (st : St α) (r1 : Option α) (s1 : St α) (h1 : Merge c st r1 s1) :
    ∀ (r2 : Option α) (s2 : St α), Merge c st r2 s2 → r1 = r2 ∧ s1 = s2 := by
  intro r2 s2 h2
  induction h1 generalizing r2 s2 with
  | wasDone => cases h2 <;> simp_all
  | got _ hb =>
    cases h2 with
    | wasDone => simp_all
    | got _ hb2 => exact branch_det hb hb2
    | advance _ hb2 | drained _ hb2 => cases (branch_det hb hb2).1
  | drained _ hb hd' =>
    cases h2 with
    | wasDone => simp_all
    | got _ hb2 => cases (branch_det hb hb2).1
    | advance _ hb2 hd2' =>
      obtain ⟨_, rfl⟩ := branch_det hb hb2
      cases hd'.symm.trans hd2'
    | drained _ hb2 =>
      obtain ⟨_, rfl⟩ := branch_det hb hb2
      exact ⟨rfl, rfl⟩
  | advance _ hb hd' _ ih =>
    cases h2 with
    | wasDone => simp_all
    | got _ hb2 => cases (branch_det hb hb2).1
    | drained _ hb2 hd2' =>
      obtain ⟨_, rfl⟩ := branch_det hb hb2
      cases hd'.symm.trans hd2'
    | advance _ hb2 _ hm2 =>
      obtain ⟨_, rfl⟩ := branch_det hb hb2
      exact ih _ _ hm2

theorem Drain.toR {c : Cfg α} {st s : St α} {o : List α} (h : Drain c st o s) : SubOps.DrainR (Merge c) st o s := by
  induction h with
  | nil hm => exact .nil hm
  | cons hm _ ih => exact .cons hm ih

theorem drain_det (c : Cfg α) (st : St α) (o1 : List α) (s1 : St α) (h1 : Drain c st o1 s1) :
    ∀ (o2 : List α) (s2 : St α), Drain c st o2 s2 → o1 = o2 ∧ s1 = s2 := fun _ _ h2 =>
  SubOps.drainR_det (fun st r1 s1 r2 s2 a b => merge_det c st r1 s1 a r2 s2 b) h1.toR h2.toR

/-- whatever a drain yields, it is `spec`: the machine has no other behaviour -/
theorem merge_only_behaviour (c : Cfg α) (hn : 0 < c.n) (up out : List α) (st' : St α)
    (h : Drain c (init up) out st') : out = spec c 0 up := by
  obtain ⟨_, hd, _⟩ := merge_refines c hn up
  exact (drain_det c _ _ _ h _ _ hd).1

/-! ### `spec` is the documented order -/

/-- a single upstream stack is served by the branches left to right -/
theorem spec_single (c : Cfg α) (s : α) : spec c 0 [s] = round c 0 s c.n := by simp [spec]

theorem round_two (c : Cfg α) (h : c.n = 2) (s : α) : round c 0 s c.n = c.fs 0 s ++ c.fs 1 s := by
  rw [h]; simp [round, h]

/-- the first branch served for the j-th stack is `(n − j mod n) mod n` (the `rot` of Model/Sem.lean) -/
def firstBranch (n : Nat) : Nat → Nat
  | 0 => 0
  | j + 1 => (firstBranch n j + n - 1) % n

/-- … because it is the residue that cancels `j` -/
theorem firstBranch_spec (n j : Nat) (hn : 0 < n) : firstBranch n j < n ∧ (j + firstBranch n j) % n = 0 := by
  induction j with
  | zero => exact ⟨hn, Nat.zero_mod n⟩
  | succ j ih =>
    refine ⟨Nat.mod_lt _ hn, ?_⟩
    rw [firstBranch, Nat.add_mod_mod, show j + 1 + (firstBranch n j + n - 1) = j + firstBranch n j + n by omega,
      Nat.add_mod_right, ih.2]

theorem firstBranch_eq (n j : Nat) (hn : 0 < n) : firstBranch n j = (n - j % n) % n := by
  obtain ⟨h1, h2⟩ := firstBranch_spec n j hn
  refine table_inj h1 (Nat.mod_lt _ hn) (h2.trans ?_)
  rw [Nat.add_mod_mod, ← Nat.mod_add_mod, Nat.add_sub_cancel' (Nat.le_of_lt (Nat.mod_lt j hn)), Nat.mod_self]

/-- the stream, input by input: the j-th upstream stack goes round the table starting at
    `firstBranch n j` -/
theorem spec_by_index (c : Cfg α) (up : List α) (j0 : Nat) :
    spec c (firstBranch c.n j0) up = (up.zipIdx j0).flatMap fun (s, j) => round c (firstBranch c.n j) s c.n := by
  induction up generalizing j0 with
  | nil => simp [spec]
  | cons s rest ih =>
    simp only [spec, List.zipIdx_cons, List.flatMap_cons]
    congr 1
    exact ih (j0 + 1)

/-- non-vacuity: three branches, the middle one yields nothing, two inputs -/
example :
    let c : Cfg Nat := ⟨3, fun i s => if i = 1 then [] else [10 * s + i]⟩
    spec c 0 [1, 2] = [10, 12, 22, 20] := by decide

end ZwVerif.Merge
