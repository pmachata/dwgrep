import ZwVerif.Model.Loc
import ZwVerif.Lemmas.SignExtend
import ZwVerif.Lemmas.Find
/-!
# C17 — location lists, their operations and abbreviations are consistent with the DIEs
-/
namespace ZwVerif.C17
open ZwVerif.Loc ZwVerif.Atval ZwVerif.Generated

theorem length_eq_elem_count (e : Elem) : (elem e).length = length e := by
  simp [elem, length]

theorem elem_is_stored_order (e : Elem) : (elem e).map (·.2) = e.ops ∧ (elem e).map (·.1) = List.range e.ops.length := by
  simp [elem, List.map_snd_zip, List.map_fst_zip]

theorem relem_get (l : List Op) (i : Nat) (h : i < l.length) :
    l[l.length - 1 - i]? = some (l[l.length - 1 - i]'(by omega)) :=
  List.getElem?_eq_getElem _

theorem filterMap_getElem?_range {α} (l : List α) : (List.range l.length).filterMap (l[·]?) = l := by
  induction l with
  | nil => rfl
  | cons x xs ih => simpa [List.range_succ_eq_map, List.filterMap_map, Function.comp_def] using ih

theorem relem_is_reverse (e : Elem) : (relem e).map (·.2) = e.ops.reverse := by
  -- the indices `n-1-i` for `i` in `range n` are `range n` reversed
  have h := List.reverse_range' (s := 0) (n := e.ops.length)
  rw [Nat.zero_add, ← List.range_eq_range'] at h
  rw [← filterMap_getElem?_range e.ops, ← List.filterMap_reverse, h]
  simp only [relem, List.map_filterMap, Option.map_map, Function.comp_def, Option.map_id_fun', id_eq,
    List.filterMap_map]

theorem hasOp_iff (e : Elem) (x : Nat) : hasOp e x = true ↔ ∃ o ∈ (elem e).map (·.2), o.atom = x := by
  rw [(elem_is_stored_order e).1]
  simp [hasOp]

theorem address_is_range (e : Elem) (h : e.lo < e.hi) :
    address e = [(e.lo, e.hi - e.lo)] ∧ e.lo + (e.hi - e.lo) = e.hi :=
  ⟨if_pos h, Nat.add_sub_of_le (Nat.le_of_lt h)⟩

/-! The facts about `opActs`, the table regenerated from atval.cc, are by `decide +kernel`: evaluated
by the kernel alone and not by the elaborator first, which on these tables costs several times as
much. -/

/-- the operand classes the DWARF standard (and the GNU extensions) give -/
def standardOperands : List (Nat × OpAct) :=
  [(0x03, .one .hexU),                                                   -- addr
   (0x08, .one .decU), (0x09, .one .decS), (0x0a, .one .decU), (0x0b, .one .decS),
   (0x0c, .one .decU), (0x0d, .one .decS), (0x0e, .one .decU), (0x0f, .one .decS),   -- constNu / constNs
   (0x10, .one .decU), (0x11, .one .decS),                               -- constu, consts
   (0x15, .one .decU), (0x23, .one .decU),                               -- pick, plus_uconst
   (0x28, .one .decS), (0x2f, .one .decS),                               -- bra, skip
   (0x70, .one .decS), (0x77, .one .decS), (0x8f, .one .decS),           -- breg0, breg7, breg31
   (0x90, .one .decU), (0x91, .one .decS), (0x92, .two .decU .decS),     -- regx, fbreg, bregx
   (0x93, .one .decU), (0x94, .one .decU), (0x95, .one .decU),           -- piece, deref_size, xderef_size
   (0x98, .one .decU), (0x99, .one .decU), (0x9a, .one .hexU),           -- call2, call4, call_ref
   (0x9d, .two .decU .decU), (0x9e, .block),                             -- bit_piece, implicit_value
   (0xa0, .dieSigned), (0xf2, .dieSigned),                               -- implicit_pointer
   (0xa3, .expr), (0xf3, .expr),                                         -- entry_value
   (0xa4, .dieBlock), (0xf4, .dieBlock),                                 -- const_type
   (0xa5, .two .decU .decU), (0xf5, .two .decU .decU),                   -- regval_type
   (0xa6, .two .decU .decU), (0xf6, .two .decU .decU),                   -- deref_type
   (0xa8, .one .decU), (0xf7, .one .decU), (0xa9, .one .decU), (0xf9, .one .decU),   -- convert, reinterpret
   (0xfa, .one .decU)]                                                   -- GNU_parameter_ref

def noOperand : List Nat :=
  [0x06, 0x12, 0x13, 0x14, 0x16, 0x17, 0x18, 0x19, 0x1a, 0x1b, 0x1c, 0x1d, 0x1e, 0x1f, 0x20, 0x21, 0x22, 0x24, 0x25, 0x26,
   0x27, 0x29, 0x2a, 0x2b, 0x2c, 0x2d, 0x2e, 0x30, 0x31, 0x4f, 0x50, 0x51, 0x6f, 0x96, 0x97, 0x9b, 0x9c, 0x9f, 0xe0]

theorem operand_classes : ∀ e ∈ standardOperands, opActs.lookup e.1 = some e.2 := by decide +kernel
theorem all_bregs_signed : ∀ r, r < 32 → opActs.lookup (0x70 + r) = some (.one .decS) := by decide +kernel
theorem no_operand_ops : ∀ x ∈ noOperand, opActs.lookup x = none := by decide +kernel

theorem signed_operand (o : Op) (h : opActs.lookup o.atom = some (.one .decS)) :
    opValues o = [.cst "dec" (signExtend 8 o.number)] := by
  simp [opValues, h, operand]

theorem unsigned_operand (o : Op) (h : opActs.lookup o.atom = some (.one .decU)) :
    opValues o = [.cst "dec" o.number] := by
  simp [opValues, h, operand]

theorem no_operands (o : Op) (h : opActs.lookup o.atom = none) : opValues o = [] := by
  simp [opValues, h]

/-- a stored signed operand is read back exactly: v ↦ 64-bit word ↦ v -/
theorem signed_operand_roundtrip (v : Int) (h1 : -9223372036854775808 ≤ v) (h2 : v < 9223372036854775808) :
    signExtend 8 (v % 18446744073709551616) = v := signExtend_roundtrip (by decide) v h1 h2

theorem mem_abbrevUnits {os seen : List Nat} {o : Nat} : o ∈ abbrevUnits os seen ↔ o ∈ os ∧ o ∉ seen := by
  induction os generalizing seen with
  | nil => simp [abbrevUnits]
  | cons x xs ih =>
    simp only [abbrevUnits]
    -- `x` is listed iff it was not seen, and is seen from then on; with `ih`, the rest is propositional
    split <;> by_cases o = x <;> simp_all

/-- `abbrev` lists every abbreviation table exactly once -/
theorem abbrevUnits_nodup (os seen : List Nat) : (abbrevUnits os seen).Nodup := by
  induction os generalizing seen with
  | nil => simp [abbrevUnits]
  | cons x xs ih =>
    simp only [abbrevUnits]
    split
    · exact ih seen
    · exact List.nodup_cons.mpr ⟨by simp [mem_abbrevUnits], ih _⟩

/-- … and misses none: every unit's table is listed (or was seen before) -/
theorem abbrevUnits_complete (os seen : List Nat) : ∀ o ∈ os, o ∈ abbrevUnits os seen ∨ o ∈ seen :=
  fun o ho => if h : o ∈ seen then .inr h else .inl (mem_abbrevUnits.mpr ⟨ho, h⟩)

theorem abbrev_lists_every_table_once (os : List Nat) :
    (abbrevUnits os []).Nodup ∧ ∀ o ∈ os, o ∈ abbrevUnits os [] :=
  ⟨abbrevUnits_nodup os [], fun _ ho => mem_abbrevUnits.mpr ⟨ho, List.not_mem_nil⟩⟩

/-- the abbreviation of a DIE is the table entry with its code; with distinct codes it is the
    only such entry -/
theorem findAbbrev_code (t : Table) (c : Nat) (a : Abbrev) (h : findAbbrev t c = some a) : a.code = c ∧ a ∈ t.entries :=
  ⟨by simpa using List.find?_some h, List.mem_of_find?_eq_some h⟩

theorem findAbbrev_unique (t : Table) (a : Abbrev) (hm : a ∈ t.entries)
    (hd : (t.entries.map (·.code)).Nodup) : findAbbrev t a.code = some a :=
  find?_of_pairwise (List.pairwise_map.mp hd) hm (beq_self_eq_true _) fun x hx => by simpa using hx

example : abbrevUnits [0, 52, 0, 52, 97] [] = [0, 52, 97] := by decide

end ZwVerif.C17
