import ZwVerif.Lemmas.Evs
/-!
# C04 — assertions and sub-expression contexts never disturb the surrounding stack

Statements about the documented meaning `sem` (Model/Sem.lean), for every
sub-expression, every frame (environment + stack) and every evaluation budget.
The tie of `sem` to the engine is the query-level correspondence.
-/
namespace ZwVerif.C04
open ZwVerif

theorem semPred_noFrame (ctx : Ctx) (n : Nat) (p : Tree) (f : Frame) :
    ∀ e ∈ (semPred ctx n p f).2, e.isFrame = false := by
  induction n generalizing p with
  | zero => rw [semPred]; exact NoFrame.cons rfl .nil
  | succ n ih =>
    unfold semPred
    split
    · exact ih _
    · exact NoFrame.cutHard (.append (ih _) (ih _))
    · exact NoFrame.cutHard (.append (ih _) (ih _))
    · exact firstResult_pre_noFrame _
    · exact NoFrame.cons rfl .nil

theorem assert_sublist (ctx : Ctx) (n : Nat) (pl : Payload) (p : Tree) (f : Frame) :
    (sem1 ctx (n + 1) (.node .ASSERT pl [p]) f).Sublist ((semPred ctx n p f).2 ++ [.frame f]) := by
  simp only [sem1]
  split
  · exact (cutHard_sublist _).trans (List.sublist_append_left _ _)
  · split
    · exact .refl _
    · exact List.sublist_append_left _ _

/-- `?(E)`, `!(E)` and every assertion built from predicates: each yielded frame is the
    incoming frame itself — same environment, same stack (depth, values, positions). -/
theorem assert_yields_input_or_nothing (ctx : Ctx) (n : Nat) (pl : Payload) (p : Tree) (f : Frame) :
    ∀ e ∈ sem1 ctx (n + 1) (.node .ASSERT pl [p]) f, e.isFrame = true → e = .frame f :=
  eq_frame_of_sublist (assert_sublist ctx n pl p f) (semPred_noFrame ctx n p f)

/-- at most one copy of the input is yielded -/
theorem assert_yields_at_most_once (ctx : Ctx) (n : Nat) (pl : Payload) (p : Tree) (f : Frame) :
    ((sem1 ctx (n + 1) (.node .ASSERT pl [p]) f).filter Ev.isFrame).length ≤ 1 :=
  filter_isFrame_le_one (assert_sublist ctx n pl p f) (semPred_noFrame ctx n p f)

/-- the negated predicate: its result is the negation, `fail` stays `fail`, and the events consumed are
    the same (what makes `?X` hold exactly when `!X` does not, and neither when X fails) -/
theorem pred_not_three_valued (ctx : Ctx) (n : Nat) (pl : Payload) (p : Tree) (f : Frame) :
    semPred ctx (n + 1) (.node .PRED_NOT pl [p]) f =
      ((semPred ctx n p f).1.map (!·), (semPred ctx n p f).2) := by
  simp only [semPred]

theorem ite_sublist_singleton (c : Prop) [Decidable c] (e : Ev) : (if c then [e] else []).Sublist [e] := by
  split
  · exact .refl _
  · exact List.nil_sublist _

theorem assertWord_sublist (positive : Bool) (p : Stack → PredR) (f : Frame) :
    (assertWord positive p f).Sublist ((p f.stk).2 ++ [.frame f]) := by
  unfold assertWord
  rcases p f.stk with ⟨_ | b, evs⟩
  · exact List.sublist_append_left _ _
  · exact (cutHard_sublist _).trans (.append_left (ite_sublist_singleton _ _) _)

/-- the assertion words (`?w` / `!w`): the frame unchanged, or nothing -/
theorem assertWord_yields_input_or_nothing (positive : Bool) (p : Stack → PredR) (f : Frame)
    (hp : ∀ e ∈ (p f.stk).2, e.isFrame = false) :
    ∀ e ∈ assertWord positive p f, e.isFrame = true → e = .frame f :=
  eq_frame_of_sublist (assertWord_sublist positive p f) hp

/-- `?w` and `!w` are complementary when `w` does not fail; neither holds when it fails -/
theorem assertWord_pos_xor_neg (p : Stack → PredR) (f : Frame) :
    match (p f.stk).1 with
    | some b => (assertWord true p f = cutHard ((p f.stk).2 ++ (if b then [.frame f] else []))) ∧
                (assertWord false p f = cutHard ((p f.stk).2 ++ (if b then [] else [.frame f])))
    | none => assertWord true p f = (p f.stk).2 ∧ assertWord false p f = (p f.stk).2 := by
  unfold assertWord
  -- fail, false, true: in each case both sides compute to the same list
  rcases p f.stk with ⟨_ | _ | _, evs⟩ <;> exact ⟨rfl, rfl⟩

theorem pCmp_noFrame {cfg : Cfg} {want : Ord3} {s : Stack} {pr : PredR} (h : pCmp cfg want s = some pr) :
    NoFrame pr.2 := by
  unfold pCmp at h
  split at h
  · split at h <;> cases h
    · exact .nil
    · exact .cons rfl .nil
  · cases h

/-- comparison words (`?lt`, `==`, …): input unchanged or nothing, or an error when fewer than
    two values are on the stack -/
theorem cmpWord_yields_input_or_nothing (cfg : Cfg) (positive : Bool) (want : Ord3) (f : Frame) :
    ∀ e ∈ cmpWord cfg positive want f, e.isFrame = true → e = .frame f := by
  unfold cmpWord
  cases h : pCmp cfg want f.stk with
  | none => exact eq_frame_of_sublist (List.sublist_append_left _ _) (.cons rfl .nil)
  | some pr =>
    obtain ⟨_ | b, evs⟩ := pr
    · exact eq_frame_of_sublist (List.sublist_append_left _ _) (pCmp_noFrame h)
    · exact eq_frame_of_sublist (.append_left (ite_sublist_singleton _ _) _) (pCmp_noFrame h)

theorem popK_spec {k : Nat} {s vs r : Stack} (h : popK k s = some (vs, r)) :
    vs.length = k ∧ s = vs ++ r := by
  induction k generalizing s vs with
  | zero => cases h; exact ⟨rfl, rfl⟩
  | succ k ih =>
    cases s with
    | nil => cases h
    | cons v s =>
      obtain ⟨⟨vs', r'⟩, h1, h2⟩ := Option.map_eq_some_iff.mp h
      cases h2
      obtain ⟨hl, rfl⟩ := ih h1
      exact ⟨congrArg (· + 1) hl, rfl⟩

/-- `let … := E;` (SUBX_EVAL k): every result is the incoming stack with exactly `k` values
    pushed; the names in scope are untouched. -/
theorem let_preserves_below (ctx : Ctx) (n : Nat) (k : ZInt) (d : Dom) (c : Tree) (f : Frame) :
    ∀ g, Ev.frame g ∈ sem1 ctx (n + 1) (.node .SUBX_EVAL (.cst k d) [c]) f →
      ∃ vs, vs.length = k.u ∧ g.stk = vs ++ f.stk ∧ g.env = f.env := by
  intro g hg
  simp only [sem1] at hg
  obtain ⟨h, _, hg⟩ := frame_mem_mapFrames hg
  split at hg
  · next vs _ hp =>
    cases List.mem_singleton.mp hg
    exact ⟨vs, (popK_spec hp).1, rfl, rfl⟩
  · cases List.mem_singleton.mp hg

/-- `[E]`: the one result is the incoming stack with one sequence pushed -/
theorem capture_adds_one (ctx : Ctx) (n : Nat) (pl : Payload) (c : Tree) (f : Frame) :
    ∀ g, Ev.frame g ∈ sem1 ctx (n + 1) (.node .CAPTURE pl [c]) f →
      ∃ es, g.stk = Val.seq 0 es :: f.stk ∧ g.env = f.env := by
  intro g hg
  simp only [sem1] at hg
  -- the body's events without its frames, then one last event: only that one can be the frame `g`
  have last {p : Ev → Bool} (hp : ∀ x, p (.frame x) = false) {l : Evs} {e : Ev} (h : Ev.frame g ∈ l.filter p ++ [e]) :
      Ev.frame g = e := List.mem_singleton.mp (NoFrame.mem_append_of_isFrame (noFrame_filter _ hp) h rfl)
  split at hg
  · cases last (fun _ => rfl) hg       -- the body raised: a hard error
  · split at hg
    · cases last (fun _ => rfl) hg     -- a result of the body had an empty stack: underflow
    · cases last (fun _ => rfl) hg     -- the captured sequence on the incoming stack
      exact ⟨_, rfl, rfl⟩

end ZwVerif.C04
