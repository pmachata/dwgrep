import ZwVerif.Model.StackProf
import ZwVerif.Model.Sem
/-!
# C11 — core words do what their documentation says

* the cached stack profile always describes the top four slots, whatever
  sequence of push / pop / drop built the stack, so overload dispatch depends
  only on the values near the top, never on history;
* `?find` / `?starts` / `?ends` are infix / prefix / suffix of the list model, for elements compared by a lawful
  `==` (strings; sequences compare their elements by `valEq cfg`, about which nothing is proved here);
* `elem` numbers 0, 1, 2, …; `relem` numbers the reversed walk afresh (`C01.posMap_pos`).
-/
namespace ZwVerif.C11
open ZwVerif PStack

theorem enc_lt (l : List Nat) (h : ∀ c ∈ l, c < 256) : enc l < 256 ^ l.length := by
  induction l with
  | nil => simp [enc]
  | cons c r ih =>
    rw [List.forall_mem_cons] at h
    have := ih h.2
    simp only [enc, List.length_cons, Nat.pow_succ]
    omega

theorem byte_div (c n : Nat) (hc : c < 256) : (c + 256 * n) / 256 = n := by omega

theorem byte_mod (c n m : Nat) (hc : c < 256) : (c + 256 * n) % (256 * m) = c + 256 * (n % m) := by
  rw [Nat.mod_mul, byte_div c n hc, Nat.add_mul_mod_self_left, Nat.mod_eq_of_lt hc]

theorem byte_inj {x y m n : Nat} (hx : x < 256) (hy : y < 256) (h : x + 256 * m = y + 256 * n) :
    x = y ∧ m = n := by omega

theorem enc_mod (l : List Nat) (k : Nat) (h : ∀ c ∈ l, c < 256) :
    enc l % 256 ^ k = enc (l.take k) := by
  induction l generalizing k with
  | nil => simp [enc]
  | cons c r ih =>
    rw [List.forall_mem_cons] at h
    cases k with
    | zero => simp [enc, Nat.mod_one]
    | succ k => rw [List.take_succ_cons, enc, enc, Nat.pow_succ', byte_mod _ _ _ h.1, ih k h.2]

theorem enc_take_succ (l : List Nat) (k : Nat) :
    enc (l.take (k + 1)) = enc (l.take k) + 256 ^ k * l.getD k 0 := by
  induction k generalizing l with
  | zero => cases l <;> simp [enc]
  | succ k ih =>
    cases l with
    | nil => simp [enc]
    | cons c r => simp [enc, ih, Nat.pow_succ', Nat.mul_add, Nat.mul_assoc, Nat.add_assoc]

theorem enc_inj (a b : List Nat) (hl : a.length = b.length) (ha : ∀ c ∈ a, c < 256)
    (hb : ∀ c ∈ b, c < 256) (h : enc a = enc b) : a = b := by
  induction a generalizing b with
  | nil => cases b <;> simp_all
  | cons x xs ih =>
    cases b with
    | nil => simp at hl
    | cons y ys =>
      rw [List.forall_mem_cons] at ha hb
      obtain ⟨rfl, he⟩ := byte_inj ha.1 hb.1 h
      rw [ih ys (by simpa using hl) ha.2 hb.2 he]

/-- no valid type code is zero, so the encoding of a code list also tells its length: a selector
    never matches the zero padding of a shallower stack -/
theorem enc_inj_pos (a b : List Nat) (ha : ∀ c ∈ a, 0 < c ∧ c < 256) (hb : ∀ c ∈ b, 0 < c ∧ c < 256)
    (h : enc a = enc b) : a = b := by
  induction a generalizing b with
  | nil =>
    cases b with
    | nil => rfl
    | cons y ys => have := (hb y List.mem_cons_self).1; simp only [enc] at h; omega
  | cons x xs ih =>
    cases b with
    | nil => have := (ha x List.mem_cons_self).1; simp only [enc] at h; omega
    | cons y ys =>
      rw [List.forall_mem_cons] at ha hb
      obtain ⟨rfl, he⟩ := byte_inj ha.1.2 hb.1.2 h
      rw [ih ys ha.2 hb.2 he]

theorem inv_empty : PStack.Inv empty := ⟨rfl, by simp [empty]⟩

theorem profile_mod (s : PStack) (h : PStack.Inv s) (k : Nat) (hk : k ≤ 4) :
    s.profile % 256 ^ k = enc (s.codes.take k) := by
  rw [h.1, enc_mod _ _ fun c hc => (h.2 c (List.mem_of_mem_take hc)).2, List.take_take,
    Nat.min_eq_left hk]

theorem inv_push (s : PStack) (c : Nat) (h : PStack.Inv s) (hc : 0 < c ∧ c < 256) : PStack.Inv (s.push c) := by
  refine ⟨?_, List.forall_mem_cons.mpr ⟨hc, h.2⟩⟩
  -- the shift keeps the low three bytes of the old profile: `p * 256 % 256^4 = 256 * (p % 256^3)`
  show s.profile * 256 % (256 * 256 ^ 3) + c = c + 256 * enc (s.codes.take 3)
  rw [Nat.mul_comm, Nat.mul_mod_mul_left, profile_mod s h 3 (by decide), Nat.add_comm]

theorem inv_pop (s s' : PStack) (h : PStack.Inv s) (hp : s.pop = some s') : PStack.Inv s' := by
  obtain ⟨codes, profile⟩ := s
  obtain ⟨hprof, hcodes⟩ := h
  cases codes with
  | nil => cases hp
  | cons c0 r =>
    cases hp
    rw [List.forall_mem_cons] at hcodes
    refine ⟨?_, hcodes.2⟩
    -- the division drops `c0`, leaving bytes 0–2 of the new profile; byte 3 is refilled
    simp only at hprof ⊢
    rw [hprof, List.take_succ_cons, enc, byte_div _ _ hcodes.1.2, enc_take_succ r 3]
    split
    · omega
    · rw [List.getD_eq_getElem?_getD, List.getElem?_eq_none (by omega)]
      rfl

theorem inv_drop (s s' : PStack) (n : Nat) (h : PStack.Inv s) (hd : s.drop n = some s') : PStack.Inv s' := by
  unfold PStack.drop at hd
  split at hd
  · cases hd
  · cases hd
    exact ⟨rfl, fun c hc => h.2 c (List.mem_of_mem_drop hc)⟩

inductive SOp where
  | push (c : Nat) | pop | drop (n : Nat)

def applyOp (s : PStack) : SOp → Option PStack
  | .push c => some (s.push c)
  | .pop => s.pop
  | .drop n => s.drop n

def applyOps : PStack → List SOp → Option PStack
  | s, [] => some s
  | s, o :: os => (applyOp s o).bind fun s' => applyOps s' os

theorem inv_applyOp (s s' : PStack) (o : SOp) (h : PStack.Inv s)
    (ho : ∀ c, o = .push c → 0 < c ∧ c < 256) (hs : applyOp s o = some s') : PStack.Inv s' := by
  cases o with
  | push c => cases hs; exact inv_push _ _ h (ho c rfl)
  | pop => exact inv_pop _ _ h hs
  | drop n => exact inv_drop _ _ _ h hs

theorem inv_applyOps (ops : List SOp) (s0 s : PStack) (h0 : PStack.Inv s0)
    (hops : ∀ o ∈ ops, ∀ c, o = .push c → 0 < c ∧ c < 256)
    (h : applyOps s0 ops = some s) : PStack.Inv s := by
  induction ops generalizing s0 with
  | nil => cases h; exact h0
  | cons o os ih =>
    rw [applyOps, Option.bind_eq_some_iff] at h
    obtain ⟨s1, h1, h2⟩ := h
    rw [List.forall_mem_cons] at hops
    exact ih s1 (inv_applyOp _ _ _ h0 hops.1 h1) hops.2 h2

/-- **profile invariant for every history**: after any sequence of push / pop / drop (with
    valid type codes) from the empty stack, the cached profile encodes exactly the type codes
    of the top four slots. -/
theorem profile_invariant (ops : List SOp) (s : PStack)
    (hops : ∀ o ∈ ops, ∀ c, o = .push c → 0 < c ∧ c < 256)
    (h : applyOps empty ops = some s) : PStack.Inv s :=
  inv_applyOps ops empty s inv_empty hops h

/-- **dispatch looks at the top `k` types only**: a selector of `k ≤ 4` type codes matches the
    cached profile iff the top `k` slots have exactly those types — independent of anything
    deeper and of how the stack was built. -/
theorem dispatch_by_top_types (s : PStack) (sel : List Nat) (h : PStack.Inv s)
    (hk : sel.length ≤ 4) (hsel : ∀ c ∈ sel, 0 < c ∧ c < 256) :
    selMatches sel s.profile = true ↔ s.codes.take sel.length = sel := by
  rw [selMatches, beq_iff_eq, profile_mod s h _ hk]
  exact ⟨enc_inj_pos _ _ (fun c hc => h.2 c (List.mem_of_mem_take hc)) hsel, congrArg enc⟩

theorem isPrefixBy_iff [BEq α] [LawfulBEq α] (needle hay : List α) :
    isPrefixBy (· == ·) needle hay = true ↔ needle <+: hay := by
  induction needle generalizing hay with
  | nil => simp [isPrefixBy]
  | cons a as ih =>
    cases hay with
    | nil => simp [isPrefixBy]
    | cons b bs => simp [isPrefixBy, ih, List.cons_prefix_cons]

theorem isInfixBy_iff [BEq α] [LawfulBEq α] (needle hay : List α) :
    isInfixBy (· == ·) needle hay = true ↔ needle <:+: hay := by
  induction hay with
  | nil => cases needle <;> simp [isInfixBy, List.isEmpty]
  | cons h hs ih => simp only [isInfixBy, Bool.or_eq_true, isPrefixBy_iff, ih, List.infix_cons_iff]

theorem isSuffixBy_iff [BEq α] [LawfulBEq α] (needle hay : List α) :
    isSuffixBy (· == ·) needle hay = true ↔ needle <:+ hay := by
  unfold isSuffixBy
  rw [isPrefixBy_iff, List.reverse_prefix]

theorem longer_needle_never [BEq α] [LawfulBEq α] (needle hay : List α) (h : hay.length < needle.length) :
    isInfixBy (· == ·) needle hay = false ∧ isPrefixBy (· == ·) needle hay = false ∧
    isSuffixBy (· == ·) needle hay = false := by
  simp only [← Bool.not_eq_true, isInfixBy_iff, isPrefixBy_iff, isSuffixBy_iff]
  have hlt := Nat.not_le_of_lt h
  exact ⟨fun hh => hlt hh.length_le, fun hh => hlt hh.length_le, fun hh => hlt hh.length_le⟩

/-- `hex` / `dec` / `oct` / `bin` keep the value, set the domain and number the result afresh -/
theorem cast_keeps_value (d : Dom) (p : Nat) (v : ZInt) (d0 : Dom) (r : Stack) (env : List (Bytes × Val)) :
    wCast d ⟨env, .cst p v d0 :: r⟩ = [.frame ⟨env, .cst 0 v d :: r⟩] := by
  rfl

/-- `add` of a constant and a string, for which it has no overload: a diagnostic and no result -/
theorem add_unsupported_is_diagnosed (env : List (Bytes × Val)) (p q : Nat) (s : Bytes) (v : ZInt) (d : Dom) (r : Stack) :
    wAdd ⟨env, .str p s :: .cst q v d :: r⟩ = [.soft "overload"] := by
  rfl

end ZwVerif.C11
