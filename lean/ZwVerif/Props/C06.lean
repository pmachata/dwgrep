import ZwVerif.Lemmas.Forest
/-!
# C06 — cooked view = raw view with imports inlined and inherited attributes integrated

Over the forest model.  Children: no resolvable DW_TAG_imported_unit survives among cooked
children, DIEs without imports below them keep exactly their raw children, partial units are
not listed as units.  Attributes: never a name twice, nothing from a secondary DIE that must
not be integrated (DW_AT_sibling, DW_AT_declaration), the DIE's own attributes first and in
stored order, and `find_attribute` returns the DIE's own attribute when it has one.
-/
namespace ZwVerif.C06
open ZwVerif.Dwarf

/-- every `DW_TAG_imported_unit` that resolves is replaced: none is left among cooked children -/
theorem cookedChildren_no_resolved_import (f : Forest) (fuel : Nat) (d : CDie) :
    ∀ c ∈ cookedChildren f fuel d, importTarget f c.die = none :=
  fun c hc => (mem_cookedChildren f fuel d c hc).1

theorem cookedChildren_raw (f : Forest) (fuel : Nat) (d : Die) (chain : List Nat)
    (h : ∀ c ∈ d.children, importTarget f c = none) :
    cookedChildren f (fuel + 1) ⟨d, chain⟩ = d.children.map fun c => ⟨c, chain⟩ := by
  rw [cookedChildren, List.map_eq_flatMap, List.flatMap_def, List.flatMap_def,
    List.map_congr_left fun c hc => by rw [h c hc]]

/-- in place: the cooked children of `D` are the concatenation, child by child in raw order, of
    what each raw child contributes (itself, or the cooked children of the unit it imports) -/
theorem cookedChildren_in_place (f : Forest) (fuel : Nat) (d : Die) (chain : List Nat) (c : Die) (cs : List Die)
    (hd : d.children = c :: cs) :
    cookedChildren f (fuel + 1) ⟨d, chain⟩ =
      (match importTarget f c with
       | some root => cookedChildren f fuel ⟨root, c.off :: chain⟩
       | none => [⟨c, chain⟩]) ++
      (cs.flatMap fun c =>
        match importTarget f c with
        | some root => cookedChildren f fuel ⟨root, c.off :: chain⟩
        | none => [⟨c, chain⟩]) := by
  rw [cookedChildren, hd, List.flatMap_cons]
  rfl

theorem cookedBelow_raw (f : Forest) (chain : List Nat) : ∀ (ds : List Die) (fuel : Nat), ds.length ≤ fuel →
    (∀ d ∈ ds, importTarget f d = none) → cookedBelow f fuel ds chain = ds.map fun d => ⟨d, chain⟩ := by
  intro ds
  induction ds with
  | nil => intro fuel _ _; cases fuel <;> rfl
  | cons d rest ih =>
    intro fuel hl hn
    cases fuel with
    | zero => simp at hl
    | succ n =>
      rw [cookedBelow, hn d List.mem_cons_self,
        ih n (Nat.le_of_succ_le_succ hl) fun x hx => hn x (List.mem_cons_of_mem _ hx)]
      rfl

/-- **without imports the cooked view of a unit is its raw view**: the root, then all DIEs below
    it in section order -/
theorem cooked_unit_is_raw (f : Forest) (u : DUnit) (fuel : Nat) (hl : (preorderList u.root.children).length ≤ fuel)
    (hn : ∀ d ∈ preorderList u.root.children, importTarget f d = none) :
    (cookedUnitEntries f fuel u).map (·.die) = u.root :: preorderList u.root.children := by
  simp [cookedUnitEntries, cookedBelow_raw f [] _ fuel hl hn, Function.comp_def]

/-- partial units are not listed as units: a forest of partial units only has no cooked entries -/
theorem partial_units_not_listed (f : Forest) (fuel : Nat) (h : ∀ u ∈ f, isPartial u = true) :
    cookedEntries f fuel = [] := by
  rw [cookedEntries, List.filter_eq_nil_iff.mpr fun u hu => by simp [h u hu]]
  rfl

/-- the units whose DIEs `entry` lists from the top are the non-partial units of the forest: said of
    the `filter` that `cookedEntries` applies, which the statement repeats; `cookedEntries` itself
    does not occur in it -/
theorem listed_units_not_partial (f : Forest) :
    ∀ u ∈ f.filter (fun u => !isPartial u), isPartial u = false ∧ u ∈ f := by
  intro u hu
  rw [List.mem_filter] at hu
  exact ⟨by simpa using hu.2, hu.1⟩

/-- what the producer yields passed its two tests on the way out: the name was not among those
    seen and, on a secondary DIE, is one that may be integrated -/
theorem go_mem {f : Forest} {fuel : Nat} {as : List DAttr} {cur : Nat} {sec : Bool} {next : List Nat} {base : Nat}
    {seen : List Nat} : ∀ x ∈ attrsCookedGo f fuel as cur sec next base seen,
      x.2.name ∉ seen ∧ (sec = true → attrShouldBeIntegrated x.2.name = true) := by
  fun_induction attrsCookedGo f fuel as cur sec next base seen
  -- the next scheduled DIE is taken: secondary from here on
  case case3 ih => exact fun x hx => ⟨(ih x hx).1, fun _ => (ih x hx).2 rfl⟩
  -- an attribute is skipped
  case case5 ih | case6 ih => exact ih
  -- an attribute is yielded, having passed both tests
  case case7 hint hseen ih =>
    intro x hx
    rcases List.mem_cons.mp hx with rfl | hx
    · exact ⟨by simpa using hseen, by simpa using hint⟩
    · exact ⟨fun hc => (ih x hx).1 (List.mem_append_left _ hc), (ih x hx).2⟩
  -- out of fuel, or nothing left to take
  all_goals simp

theorem go_nodup (f : Forest) (fuel : Nat) (as : List DAttr) (cur : Nat) (sec : Bool) (next : List Nat) (base : Nat)
    (seen : List Nat) : ((attrsCookedGo f fuel as cur sec next base seen).map (·.2.name)).Nodup := by
  fun_induction attrsCookedGo f fuel as cur sec next base seen
  case case3 ih | case5 ih | case6 ih => exact ih
  case case7 ih =>
    -- what follows a yielded attribute was produced with its name among those seen
    rw [List.map_cons, List.nodup_cons]
    refine ⟨fun hm => ?_, ih⟩
    obtain ⟨x, hx, hxe⟩ := List.mem_map.mp hm
    exact (go_mem x hx).1 (by simp [hxe])
  all_goals simp

/-- **never a name twice** -/
theorem attribute_no_name_twice (f : Forest) (fuel : Nat) (d : Die) :
    ((attrsCooked f fuel d).map (·.2.name)).Nodup :=
  go_nodup f fuel _ _ _ _ _ _

/-- once the producer is on a secondary DIE it stays there, and yields nothing that must not be
    integrated: **never DW_AT_sibling / DW_AT_declaration of a referenced DIE** -/
theorem go_secondary (f : Forest) (fuel : Nat) : ∀ (as : List DAttr) (cur : Nat) (next : List Nat) (base : Nat)
    (seen : List Nat), ∀ x ∈ attrsCookedGo f fuel as cur true next base seen,
      attrShouldBeIntegrated x.2.name = true :=
  fun _ _ _ _ _ x hx => (go_mem x hx).2 rfl

def scheduleAll (next : List Nat) (base : Nat) : List DAttr → List Nat
  | [] => next
  | a :: as => scheduleAll (schedule next base a) base as

/-- **own attributes first**: with distinct own names and budget for them, the producer yields the
    DIE's own attributes, in stored order and sitting on the DIE itself, and only then turns to
    the referenced DIEs (in secondary mode) -/
theorem go_own_first (f : Forest) (fuel cur base : Nat) : ∀ (as : List DAttr) (next seen : List Nat),
    (as.map (·.name)).Nodup → (∀ a ∈ as, a.name ∉ seen) →
    attrsCookedGo f (fuel + as.length) as cur false next base seen =
      as.map (fun a => (cur, a)) ++
      attrsCookedGo f fuel [] cur false (scheduleAll next base as) base (seen ++ as.map (·.name)) := by
  intro as
  induction as with
  | nil => intros; simp [scheduleAll]
  | cons a as ih =>
    intro next seen hnd hns
    rw [List.map_cons, List.nodup_cons] at hnd
    rw [List.length_cons, ← Nat.add_assoc, attrsCookedGo]
    -- of the three recursive calls the one that yields `a` is taken (last `simp`: not secondary, name not seen); `ih`
    -- applies to it: the name of a later own attribute is neither among those seen nor `a`'s
    rw [ih _ (seen ++ [a.name]) hnd.2 fun b hb => by
      simpa using ⟨hns b (List.mem_cons_of_mem _ hb), fun he => hnd.1 (List.mem_map.mpr ⟨b, hb, he⟩)⟩]
    simp [hns a List.mem_cons_self, scheduleAll]

theorem attribute_own_first (f : Forest) (fuel : Nat) (d : Die) (hnd : (d.attrs.map (·.name)).Nodup) :
    attrsCooked f (fuel + d.attrs.length) d =
      d.attrs.map (fun a => (d.off, a)) ++
      attrsCookedGo f fuel [] d.off false (scheduleAll [] 0 d.attrs) 0 (d.attrs.map (·.name)) := by
  simpa [attrsCooked] using go_own_first f fuel d.off 0 d.attrs [] [] hnd (by simp)

/-- `find_attribute` (`@AT_x`, `?AT_x`, `name`): an own attribute wins -/
theorem findAttr_own (f : Forest) (fuel : Nat) (d : Die) (x : Nat) (a : DAttr)
    (h : d.attrs.find? (fun a => a.name == x) = some a) :
    findAttr f (fuel + 1) d x = some (d.off, a) := by
  simp [findAttr, h]

/-- `find_attribute` never integrates DW_AT_sibling / DW_AT_declaration -/
theorem findAttr_not_integrated (f : Forest) (fuel : Nat) (d : Die) (x : Nat)
    (h : d.attrs.find? (fun a => a.name == x) = none) (hx : attrShouldBeIntegrated x = false) :
    findAttr f (fuel + 1) d x = none := by
  simp [findAttr, h, hx]

/-- the specification is looked through before the abstract origin -/
theorem findAttr_prefers_specification (f : Forest) (fuel : Nat) (d : Die) (x : Nat) (r : Nat × DAttr)
    (sp : DAttr) (t : Die) (tref : Nat)
    (h : d.attrs.find? (fun a => a.name == x) = none) (hx : attrShouldBeIntegrated x = true)
    (hs : d.attrs.find? (fun a => a.name == DW_AT_specification) = some sp)
    (hr : sp.ref = some tref) (ht : findDie f tref = some t)
    (hf : findAttr f fuel t x = some r) :
    findAttr f (fuel + 1) d x = some r := by
  simp [findAttr, h, hx, hs, hr, ht, hf]

/-- the producer agrees: a specification scheduled by the current DIE is on top of the stack,
    whatever the stored order of the two references -/
theorem schedule_specification_on_top (next : List Nat) (base : Nat) (a : DAttr) (t : Nat)
    (ha : a.name = DW_AT_specification) (hr : a.ref = some t) :
    (schedule next base a).reverse.head? = some t := by
  simp [schedule, ha, hr]

theorem schedule_origin_below (next : List Nat) (base : Nat) (a : DAttr) (t : Nat)
    (ha : a.name = DW_AT_abstract_origin) (hr : a.ref = some t) (hb : base < next.length) :
    (schedule next base a).reverse.head? = next.reverse.head? := by
  have hs : schedule next base a = next.take base ++ [t] ++ next.drop base := by
    simp [schedule, hr, ha, show DW_AT_abstract_origin ≠ DW_AT_specification by decide]
  -- the top of the stack is the last of `next.drop base`, which is not empty: the last of `next`
  rw [hs, List.head?_reverse, List.head?_reverse, List.getLast?_append, List.getLast?_drop,
    if_neg (Nat.not_le.mpr hb), List.getLast?_eq_some_getLast (List.ne_nil_of_length_pos (by omega)),
    Option.some_or]

/-- non-vacuity: a DIE with both references and an inherited attribute on both sides -/
example :
    let t1 : Die := .mk 20 0x34 false [{ name := 3, form := 8, ref := none }] []
    let t2 : Die := .mk 30 0x34 false [{ name := 3, form := 14, ref := none }] []
    let d : Die := .mk 40 0x34 false [{ name := DW_AT_abstract_origin, form := 19, ref := some 30 }, { name := DW_AT_specification, form := 19, ref := some 20 }] []
    let f : Forest := [⟨0, 4, .mk 11 0x11 true [] [t1, t2, d]⟩]
    (findAttr f 10 d 3).map (·.1) = some 20 ∧
    ((attrsCooked f 50 d).find? (fun x => x.2.name == 3)).map (·.1) = some 20 := by
  decide

end ZwVerif.C06
