import ZwVerif.Lemmas.Coverage
/-!
# C16 — address sets behave as mathematical sets of addresses

`mem x c` is the set denoted by a coverage; `WF` is the canonical form (ascending,
disjoint, non-adjacent, non-empty ranges).  Every word preserves `WF` and has
the set-theoretic meaning the documentation gives; two canonical coverages are
equal exactly when they denote the same set, so `value_aset::cmp` (structural)
is set equality.  Universe: natural numbers (addresses below 2^64-1, no
wrap-around) — see DESIGN.md.
-/
namespace ZwVerif.C16
open ZwVerif Cov

theorem aset_either_order (a b : Nat) : wAset a b = wAset b a := by
  unfold wAset; rw [Nat.min_comm, Nat.max_comm]

theorem aset_mem (a b x : Nat) : mem x (wAset a b) ↔ (min a b ≤ x ∧ x < max a b) := by
  rw [wAset, mem_add, mem_nil, or_false,
    Nat.add_sub_of_le (Nat.le_trans (Nat.min_le_left a b) (Nat.le_max_left a b))]

theorem aset_WF (a b : Nat) : WF (wAset a b) := WF_add _ _ _ trivial

theorem add_cst_is_insert (c : Cov) (a x : Nat) : mem x (wAddCst c a) ↔ x = a ∨ mem x c := by
  rw [wAddCst, mem_add]; exact or_congr_left (by omega)

theorem add_is_union (a b : Cov) (x : Nat) : mem x (wAddAset a b) ↔ mem x a ∨ mem x b :=
  mem_addAll x a b

theorem sub_cst_is_erase (c : Cov) (h : WF c) (a x : Nat) :
    mem x (wSubCst c a) ↔ mem x c ∧ x ≠ a := by
  rw [wSubCst, mem_remove _ _ _ _ h]; exact and_congr_right' (by omega)

theorem sub_is_difference (a b : Cov) (h : WF a) (x : Nat) :
    mem x (wSubAset a b) ↔ mem x a ∧ ¬ mem x b :=
  mem_removeAll x a b h

theorem overlap_fold (a : Cov) (x : Nat) (b acc : Cov) :
    mem x (b.foldl (fun acc r => addAll acc (intersect r.1 r.2 a)) acc) ↔
      mem x acc ∨ (mem x a ∧ mem x b) := by
  induction b generalizing acc with
  | nil => simp
  | cons r rest ih =>
    rw [List.foldl_cons, ih, mem_addAll, mem_intersect, mem_cons, or_assoc, and_or_left]

theorem overlap_is_intersection (a b : Cov) (x : Nat) :
    mem x (wOverlap a b) ↔ mem x a ∧ mem x b := by
  rw [wOverlap, overlap_fold, mem_nil, false_or]

theorem words_preserve_WF (a b : Cov) (ha : WF a) (x : Nat) :
    WF (wAddCst a x) ∧ WF (wAddAset a b) ∧ WF (wSubCst a x) ∧ WF (wSubAset a b) ∧
    WF (wOverlap a b) :=
  ⟨WF_add _ _ _ ha, WF_addAll _ _ ha, WF_remove _ _ _ ha, WF_removeAll _ _ ha,
   WF_foldl (fun _ _ => WF_addAll _ _) b trivial⟩

theorem contains_cst_iff (c : Cov) (h : WF c) (a : Nat) : wContainsCst c a = true ↔ mem a c := by
  rw [wContainsCst, isCovered_iff a 1 c (by omega) h]
  exact ⟨fun hh => hh a (Nat.le_refl a) (Nat.lt_succ_self a),
    fun hm x h1 h2 => Nat.le_antisymm h1 (Nat.le_of_lt_succ h2) ▸ hm⟩

theorem contains_aset_iff (a b : Cov) (ha : WF a) (hb : WF b) :
    wContainsAset a b = true ↔ ∀ x, mem x b → mem x a := by
  rw [wContainsAset, List.all_eq_true]
  constructor
  · rintro hall x ⟨r, hr, h1, h2⟩
    exact (isCovered_iff r.1 r.2 a (by omega) ha).mp (hall r hr) x h1 h2
  · intro hsub r hr
    exact (isCovered_iff r.1 r.2 a (hb.pos r hr) ha).mpr fun x h1 h2 => hsub x ⟨r, hr, h1, h2⟩

theorem overlaps_iff (a b : Cov) : wOverlaps a b = true ↔ ∃ x, mem x a ∧ mem x b := by
  simp only [wOverlaps, List.any_eq_true, isOverlap_iff]
  exact ⟨fun ⟨r, hr, x, h1, h2, hm⟩ => ⟨x, hm, r, hr, h1, h2⟩,
    fun ⟨x, hm, r, hr, h1, h2⟩ => ⟨r, hr, x, h1, h2, hm⟩⟩

theorem empty_iff (c : Cov) (h : WF c) : wEmpty c = true ↔ ∀ x, ¬ mem x c := by
  cases c with
  | nil => simp [wEmpty]
  | cons r c => exact ⟨nofun, fun hall => (hall _ (h.mem_start List.mem_cons_self)).elim⟩

theorem cmp_eq_iff_same_set (a b : Cov) (ha : WF a) (hb : WF b) :
    cmp a b = 0 ↔ ∀ x, mem x a ↔ mem x b := by
  rw [cmp_eq_zero]
  exact ⟨fun h _ => h ▸ Iff.rfl, canonical_unique a b ha hb⟩

theorem mem_elem (c : Cov) (x : Nat) : x ∈ wElem c ↔ mem x c := by
  unfold wElem mem
  simp only [List.mem_flatMap, List.mem_map, List.mem_range]
  constructor
  · rintro ⟨r, hr, i, hi, rfl⟩; exact ⟨r, hr, by omega, by omega⟩
  · rintro ⟨r, hr, h1, h2⟩; exact ⟨r, hr, x - r.1, by omega, by omega⟩

theorem length_is_card (c : Cov) : (wElem c).length = wLength c := by
  simp [wElem, wLength, List.length_flatMap]

theorem elem_ascending (c : Cov) (h : WF c) : (wElem c).Pairwise (· < ·) := by
  rw [wElem, List.pairwise_flatMap]
  constructor
  · intro r _
    exact List.pairwise_map.mpr (List.pairwise_lt_range.imp fun h => Nat.add_lt_add_left h r.1)
  · refine h.pairwise.imp fun hsep x hx y hy => ?_
    obtain ⟨i, hi, rfl⟩ := List.mem_map.mp hx
    obtain ⟨j, -, rfl⟩ := List.mem_map.mp hy
    have := List.mem_range.mp hi
    omega

theorem relem_is_reverse (c : Cov) : wRelem c = (wElem c).reverse := rfl

theorem low_is_min (c : Cov) (h : WF c) (s : Nat) (hs : wLow c = some s) :
    mem s c ∧ ∀ x, mem x c → s ≤ x := by
  cases c with
  | nil => nomatch hs
  | cons r c =>
    obtain rfl : r.1 = s := Option.some.inj hs
    exact ⟨h.mem_start List.mem_cons_self, fun _ => WF_head_min h⟩

theorem high_is_sup (c : Cov) (h : WF c) (e : Nat) (he : wHigh c = some e) :
    (∀ x, mem x c → x < e) ∧ 0 < e ∧ mem (e - 1) c := by
  -- `e` is the end of the last range `r`, and every range before it ends before `r` starts
  obtain ⟨r, hr, rfl⟩ := Option.map_eq_some_iff.mp he
  obtain ⟨ini, rfl⟩ := List.getLast?_eq_some_iff.mp hr
  have hm : r ∈ ini ++ [r] := List.mem_append_right _ (List.mem_singleton_self r)
  have := h.pos r hm
  refine ⟨fun x ⟨r', hr', _, h2⟩ => ?_, by omega, r, hm, by omega, by omega⟩
  rcases List.mem_append.mp hr' with hr' | hr'
  · have := h.pairwise.rel_of_mem_append hr' (List.mem_singleton_self r); omega
  · rwa [List.mem_singleton.mp hr'] at h2

theorem range_runs (c : Cov) (h : WF c) : (wRange c).flatten = c ∧ ∀ r ∈ wRange c, ∃ p ∈ c, r = [p] := by
  have hone : wRange c = c.map fun p => [p] :=
    List.map_congr_left fun p hp => add_nil (h.pos p hp)
  rw [hone, ← List.flatMap_def, List.flatMap_singleton']
  exact ⟨rfl, fun r hr => by simpa [eq_comm] using hr⟩

/-! Non-vacuity, and the input on which `coverage::intersect` failed before its repair (F9):
    `0 10 aset 2 4 aset overlap`. -/
example : WF (wAset 0 10) ∧ WF (wAset 2 4) := ⟨aset_WF _ _, aset_WF _ _⟩
example : wOverlap (wAset 0 10) (wAset 2 4) = [(2, 2)] := by decide
example : wSubAset (wAset 0 10) (wAset 2 4) = [(0, 2), (4, 6)] := by decide
example : cmp (wAddAset (wAset 0 2) (wAset 2 4)) (wAset 4 0) = 0 := by decide

end ZwVerif.C16
