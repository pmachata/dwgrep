import ZwVerif.Model.Symbol
/-!
# C18 — ELF symbols are reported completely and faithfully
-/
namespace ZwVerif.C18
open ZwVerif.Symbol ZwVerif.Generated

/-- every entry of every table exactly once, in table order: the yielded list is the
    concatenation of the tables.  That is how `symbols` is defined (the proof is `rfl`): the claim
    is the model's, held to builtin-symbol.cc by the correspondence check (zwv/c18.py) -/
theorem symbols_complete (mods : List (List Sym)) : symbols mods = mods.flatten := rfl

theorem symbols_count (mods : List (List Sym)) : (symbols mods).length = (mods.map List.length).sum := by
  simp [symbols, List.length_flatten]

theorem symbols_single (t : List Sym) : symbols [t] = t := by simp [symbols]

theorem symbols_order (pre : List (List Sym)) (t : List Sym) (post : List (List Sym)) (i : Nat) (h : i < t.length) :
    (symbols (pre ++ t :: post))[(symbols pre).length + i]? = t[i]? := by
  simp only [symbols, List.flatten_append, List.flatten_cons]
  rw [List.getElem?_append_right (Nat.le_add_right ..), Nat.add_sub_cancel_left, List.getElem?_append_left h]

theorem positions_from_zero (mods : List (List Sym)) :
    positions mods = List.range (symbols mods).length ∧ (positions mods).length = (symbols mods).length := by
  simp [positions]

/-- st_info packs binding and type: both are recovered for every byte -/
theorem info_unpack (b t : Nat) (ht : t < 16) :
    (Sym.mk [] 0 0 (b * 16 + t) 0).type = t ∧ (Sym.mk [] 0 0 (b * 16 + t) 0).bind = b := by
  refine ⟨Nat.mul_add_mod_of_lt ht, ?_⟩
  rw [Sym.bind, Nat.add_comm, Nat.add_mul_div_right _ _ (by decide), Nat.div_eq_of_lt ht, Nat.zero_add]

theorem vis_unpack (hi v : Nat) (hv : v < 4) : (Sym.mk [] 0 0 0 (hi * 4 + v)).vis = v :=
  Nat.mul_add_mod_of_lt hv

theorem generic_equal_across_machines (m1 m2 c : Nat) (h : c < STT_LOOS) :
    cstEq (sttFamily m1) c (sttFamily m2) c = true := by
  simp [cstEq, h]

theorem specific_never_equal_across_families (f1 f2 c1 c2 : Nat) (h : STT_LOOS ≤ c1) (hf : f1 ≠ f2) :
    cstEq f1 c1 f2 c2 = false := by
  simp [cstEq, Nat.not_lt.mpr h, hf]

-- the two table facts are by `decide +kernel`: evaluated by the kernel alone, not by the elaborator first

/-- machines with their own family keep it; all others share the generic one (against the
    regenerated tables) -/
theorem families :
    sttFamily 40 = 40 ∧ sttFamily 2 = 2 ∧ sttFamily 15 = 15 ∧ sttFamily 62 = 0 ∧ sttFamily 8 = 0 ∧ sttFamily 21 = 0 ∧
    stbFamily 8 = 8 ∧ stbFamily 40 = 0 ∧ stbFamily 62 = 0 := by decide +kernel

/-- machine-specific codes are named in their machine's family and not in another's -/
theorem specific_names :
    codeName sttNames (sttFamily 40) 13 = "ARM_TFUNC" ∧ codeName sttNames (sttFamily 40) 15 = "ARM_16BIT" ∧
    codeName sttNames (sttFamily 2) 13 = "SPARC_REGISTER" ∧ codeName sttNames (sttFamily 15) 13 = "PARISC_MILLICODE" ∧
    codeName sttNames (sttFamily 62) 13 = "LOPROC+0" ∧ codeName sttNames (sttFamily 8) 13 = "LOPROC+0" ∧
    codeName stbNames (stbFamily 8) 13 = "MIPS_SPLIT_COMMON" ∧ codeName stbNames (stbFamily 62) 13 = "LOPROC+0" ∧
    codeName sttNames (sttFamily 62) 2 = "FUNC" ∧ codeName sttNames (sttFamily 40) 2 = "FUNC" ∧
    codeName stbNames (stbFamily 8) 1 = "GLOBAL" := by decide +kernel

end ZwVerif.C18
