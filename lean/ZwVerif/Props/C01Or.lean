import ZwVerif.Model.Or
/-!
# C01 (mechanism) — the op_or machine: for every upstream stack, the results of the first branch
that yields anything, in upstream order; later stacks start again at the first branch
-/
namespace ZwVerif.OrOp
variable {α : Type}

theorem Drain.of_next {c : Cfg α} {st st2 st' : St α} {outs : List α}
    (e : ∀ r s, Next c st2 r s → Next c st r s) (h : Drain c st2 outs st') : Drain c st outs st' := by
  cases h with
  | nil hn => exact .nil (e _ _ hn)
  | cons hn hr => exact .cons (e _ _ hn) hr

theorem drain_pend (c : Cfg α) (i : Nat) : ∀ (p : List α) (rest : List α) (outs : List α) (st' : St α),
    Drain c { up := rest, it := none, pend := [] } outs st' →
    Drain c { up := rest, it := some i, pend := p } (p ++ outs) st' := by
  intro p rest outs st' h
  induction p with
  | nil => exact h.of_next fun _ _ => .reset rfl rfl
  | cons x xs ih => exact .cons (.yield rfl rfl) ih

theorem drain_miss (c : Cfg α) (s : α) (rest : List α) (outs : List α) (st' : St α)
    (hf : firstFrom c s c.n 0 = none) (h : Drain c { up := rest, it := none, pend := [] } outs st') :
    Drain c { up := s :: rest, it := none, pend := [] } outs st' :=
  h.of_next fun _ _ => .pullMiss rfl rfl hf

/-- **the machine computes `spec` and ends ready for more** -/
theorem or_refines (c : Cfg α) (up : List α) :
    Drain c (init up) (spec c up) { up := [], it := none, pend := [] } := by
  induction up with
  | nil => exact .nil (.upstreamDry rfl rfl)
  | cons s rest ih =>
    simp only [spec, List.flatMap_cons, firstResults]
    cases hf : firstFrom c s c.n 0 with
    | none => exact drain_miss c s rest _ _ hf ih
    | some t => exact .cons (.pullHit rfl rfl hf) (drain_pend c t.1 t.2.2 rest _ _ ih)

theorem firstFrom_first (c : Cfg α) (s : α) : ∀ (k i : Nat) (j : Nat) (x : α) (xs : List α),
    firstFrom c s k i = some (j, x, xs) → c.fs j s = x :: xs ∧ i ≤ j ∧ j < i + k ∧ ∀ m, i ≤ m → m < j → c.fs m s = [] := by
  intro k i j x xs h
  fun_induction firstFrom c s k i with
  | case1 => cases h
  | case2 k i y ys hfi =>
    cases h
    exact ⟨hfi, Nat.le_refl _, by omega, fun m h1 h2 => by omega⟩
  | case3 k i hfi ih =>
    obtain ⟨h1, h2, h3, h4⟩ := ih h
    refine ⟨h1, by omega, by omega, fun m hm1 hm2 => ?_⟩
    by_cases hmi : m = i
    · exact hmi ▸ hfi
    · exact h4 m (by omega) hm2

/-- what is yielded for one stack is the whole output of the first branch (in order) that yields
    anything for it: no earlier branch yields, no later branch is consulted -/
theorem firstResults_is_first_branch (c : Cfg α) (s : α) :
    (∃ j, j < c.n ∧ firstResults c s = c.fs j s ∧ c.fs j s ≠ [] ∧ ∀ m, m < j → c.fs m s = []) ∨
    (firstResults c s = [] ∧ firstFrom c s c.n 0 = none) := by
  unfold firstResults
  cases hf : firstFrom c s c.n 0 with
  | none => exact Or.inr ⟨rfl, rfl⟩
  | some t =>
    obtain ⟨j, x, xs⟩ := t
    obtain ⟨h1, _, h3, h4⟩ := firstFrom_first c s c.n 0 j x xs hf
    exact Or.inl ⟨j, by omega, h1.symm, by simp [h1], fun m hm => h4 m (Nat.zero_le _) hm⟩

example : let c : Cfg Nat := ⟨2, fun i s => if i = 0 then (if s = 1 then [] else [s, s]) else [100 + s]⟩
    spec c [1, 2, 3] = [101, 2, 2, 3, 3] := by decide

end ZwVerif.OrOp
