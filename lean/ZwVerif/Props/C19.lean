import ZwVerif.Model.Cli
/-!
# C19 — the command line honours its grep-like contract

Theorems about the driver model (Model/Cli.lean) for every option set, every list
of files and arguments, and every behaviour of the library (`exec`).
-/
namespace ZwVerif.C19
open ZwVerif.Cli

/-- One iteration in normal form — the one place where `iteration` is unfolded.  Once `-q` has seen a result (now
    or earlier) the loop only idles with `quitZero` set; otherwise every field grows by what this execution adds. -/
theorem iteration_eq (o : Opts) (wh : Bool) (hdr : String) (r : Run) (st : St) :
    iteration o wh hdr r st =
      if st.quitZero = true ∨ o.quiet = true ∧ r.results ≠ [] then { st with quitZero := true } else
      { out := st.out ++
          if o.count then
            if o.quiet then [] else [(if wh then hdr ++ ":" else "") ++ toString r.results.length]
          else r.results.flatMap fun lines =>
            (if wh then [hdr ++ ":"] else []) ++ (if lines.length > 1 then ["---"] else []) ++ lines
        err := st.err ++ if o.silent then [] else r.err.toList.map ("dwgrep: " ++ hdr ++ ": " ++ ·)
        errors := st.errors || r.err.isSome && !o.quiet
        isMatch := st.isMatch || !r.results.isEmpty
        quitZero := false } := by
  unfold iteration
  rcases st with ⟨out, err, errors, isMatch, _ | _⟩
  · cases r.err <;> cases o.count <;> cases o.quiet <;> simp
  · simp

theorem stdout_ite {P : List String → Prop} {c : Prop} [Decidable c] {a b : Out}
    (ha : P a.stdout) (hb : P b.stdout) : P (if c then a else b).stdout := by
  split <;> assumption

/-- What `main` writes to stdout is nothing, or the `out` of the loop's final state: whatever holds of both holds
    of it. -/
theorem main_stdout {P : List String → Prop} (o : Opts) (ce : Option String) (files : List (String × Bool))
    (extra : List Arg) (exec : List Nat → Run) (nil : P [])
    (loop : ∀ wh (hdr : List Nat → String) cs,
      P (List.foldl (fun st idx => iteration o wh (hdr idx) (exec idx) st) {} cs).out) :
    P (main o ce files extra exec).stdout := by
  cases ce with
  | some m => exact nil
  | none =>
    -- the exits of `main`: no file could be opened; an argument without values; `-q` saw a result
    exact stdout_ite nil (stdout_ite nil (stdout_ite nil (loop ..)))

/-- a compile failure is status 2, nothing on stdout -/
theorem compile_error_status (o : Opts) (m : String) (files : List (String × Bool)) (extra : List Arg)
    (exec : List Nat → Run) :
    (main o (some m) files extra exec).status = 2 ∧ (main o (some m) files extra exec).stdout = [] :=
  ⟨rfl, rfl⟩

theorem iteration_quiet_out (o : Opts) (wh : Bool) (hdr : String) (r : Run) (st : St)
    (hq : o.quiet = true) (h : st.out = []) : (iteration o wh hdr r st).out = [] := by
  -- without results nothing is printed; with results `-q` quits
  by_cases hr : r.results = [] <;> simp [iteration_eq, apply_ite St.out, h, hq, hr]

theorem foldl_quiet_out (o : Opts) (wh : Bool) (hq : o.quiet = true) (hdr : List Nat → String)
    (exec : List Nat → Run) (cs : List (List Nat)) (st : St) (h : st.out = []) :
    (cs.foldl (fun st idx => iteration o wh (hdr idx) (exec idx) st) st).out = [] := by
  induction cs generalizing st with
  | nil => exact h
  | cons c cs ih => exact ih _ (iteration_quiet_out o wh _ _ st hq h)

/-- **with -q nothing is written to stdout**, whatever the library does -/
theorem quiet_stdout_empty (o : Opts) (ce : Option String) (files : List (String × Bool)) (extra : List Arg)
    (exec : List Nat → Run) (hq : o.quiet = true) : (main o ce files extra exec).stdout = [] :=
  main_stdout (P := (· = [])) o ce files extra exec rfl fun wh hdr cs => foldl_quiet_out o wh hq hdr exec cs {} rfl

theorem iteration_flags (o : Opts) (wh : Bool) (hdr : String) (r : Run) (st : St) (hnq : st.quitZero = false)
    (hq : o.quiet = false) :
    (iteration o wh hdr r st).errors = (st.errors || r.err.isSome) ∧
    (iteration o wh hdr r st).isMatch = (st.isMatch || !r.results.isEmpty) ∧
    (iteration o wh hdr r st).quitZero = false := by
  simp [iteration_eq, hnq, hq]

/-- the flags `main` turns into the status, without -q: `errors` (status 2) iff some execution
    raised, `isMatch` (else status 0) iff some result was yielded -/
theorem status_of_flags (o : Opts) (wh : Bool) (hq : o.quiet = false) (hdr : List Nat → String)
    (exec : List Nat → Run) (cs : List (List Nat)) (st : St) (hnq : st.quitZero = false) :
    let fin := cs.foldl (fun st idx => iteration o wh (hdr idx) (exec idx) st) st
    fin.errors = (st.errors || cs.any (fun idx => (exec idx).err.isSome)) ∧
    fin.isMatch = (st.isMatch || cs.any (fun idx => !(exec idx).results.isEmpty)) ∧
    fin.quitZero = false := by
  induction cs generalizing st with
  | nil => simp [hnq]
  | cons c cs ih =>
    obtain ⟨h1, h2, h3⟩ := iteration_flags o wh (hdr c) (exec c) st hnq hq
    simpa [h1, h2, Bool.or_assoc] using ih _ h3

/-- `-c`: per input, one line holding exactly the number of results that would otherwise be
    printed (also when an error ended the execution early) -/
theorem count_line (o : Opts) (wh : Bool) (hdr : String) (r : Run) (st : St)
    (hc : o.count = true) (hq : o.quiet = false) (hnq : st.quitZero = false) :
    (iteration o wh hdr r st).out = st.out ++ [(if wh then hdr ++ ":" else "") ++ toString r.results.length] := by
  simp [iteration_eq, hnq, hq, hc]

/-- without -c every result is printed: optional header line, `---` for multi-value stacks, the
    values -/
theorem results_printed (o : Opts) (wh : Bool) (hdr : String) (r : Run) (st : St)
    (hc : o.count = false) (hq : o.quiet = false) (hnq : st.quitZero = false) :
    (iteration o wh hdr r st).out = st.out ++ r.results.flatMap fun lines =>
      (if wh then [hdr ++ ":"] else []) ++ (if lines.length > 1 then ["---"] else []) ++ lines := by
  simp [iteration_eq, hnq, hq, hc]

/-- `-s` silences the driver's message for an execution that raised (files that cannot be opened:
    `openErrs` in `main`; a compile failure is reported even so) -/
theorem silent_no_driver_messages (o : Opts) (wh : Bool) (hdr : String) (r : Run) (st : St)
    (hs : o.silent = true) (h : st.err = []) : (iteration o wh hdr r st).err = [] := by
  simp [iteration_eq, apply_ite St.err, h, hs]

/-- row-major order on the shapes the check's matrix (zwv/c19.py) uses; the general statement is
    `C19Order.combos_row_major` -/
example : combos [2, 3] 6 [0, 0] = [[0,0],[0,1],[0,2],[1,0],[1,1],[1,2]] := by decide
example : combos [2, 1, 2] 4 [0, 0, 0] = [[0,0,0],[0,0,1],[1,0,0],[1,0,1]] := by decide
example : combos [3] 3 [0] = [[0],[1],[2]] := by decide

end ZwVerif.C19
