import ZwVerif.Lemmas.Forest
/-!
# C02 — the raw view is the DIE tree on disk

The all-DIEs iterator, as a machine over the forest (current DIE + the later
siblings pending at every ancestor level), visits exactly the section pre-order of
a unit: every DIE once, parents before children, siblings in stored order —
whatever the shape of the tree.
-/
namespace ZwVerif.C02
open ZwVerif.Dwarf

theorem preorder_cons (o t : Nat) (h : Bool) (a : List DAttr) (cs : List Die) :
    preorder (.mk o t h a cs) = .mk o t h a cs :: preorderList cs :=
  preorder_eq _

theorem pending_popConts (conts : List (List Die)) :
    (match popConts conts with
     | some s => pending s
     | none => []) = conts.flatMap preorderList := by
  induction conts with
  | nil => rfl
  | cons c rest ih =>
    cases c with
    | nil => simpa [popConts, preorderList] using ih
    | cons s ss => simp [popConts, pending, preorderList]

/-- one step of the iterator takes the current DIE off what is pending: with children `c :: cs` it descends, and
    `preorderList (c :: cs) = preorder c ++ preorderList cs` is what is pending below; without, it pops the
    exhausted levels (`pending_popConts`) -/
theorem iter_step (s : ItState) :
    pending s = s.cur :: (match itNext s with | some s' => pending s' | none => []) := by
  rw [pending, preorder_eq, itNext]
  cases hc : s.cur.children with
  | nil => simp [pending_popConts, preorderList]
  | cons c cs => simp [pending, preorderList]

/-- **the iterator visits exactly the pre-order**: with enough steps, running it from a state
    yields precisely what was pending there — each DIE once, in section order -/
theorem iter_run_pending (fuel : Nat) (s : ItState) (h : (pending s).length ≤ fuel) :
    itRun fuel (some s) = pending s := by
  induction fuel generalizing s with
  | zero => rw [iter_step] at h; simp at h
  | succ n ih =>
    rw [iter_step] at h ⊢
    rw [itRun]
    cases hn : itNext s with
    | none => cases n <;> rfl
    | some s' => rw [ih s' (by simpa [hn] using h)]

theorem iter_is_preorder (root : Die) (fuel : Nat) (h : (preorder root).length ≤ fuel) :
    itRun fuel (some ⟨root, []⟩) = preorder root := by
  simpa [pending] using iter_run_pending fuel ⟨root, []⟩ (by simpa [pending] using h)

mutual
theorem parentTable_offsets (par : Option Nat) (d : Die) :
    (parentTable par d).map (·.1) = (preorder d).map Die.off := by
  match d with
  | .mk o t h a cs => simp [parentTable, preorder, Die.off, parentTableList_offsets (some o) cs]
theorem parentTableList_offsets (par : Option Nat) (cs : List Die) :
    (parentTableList par cs).map (·.1) = (preorderList cs).map Die.off := by
  match cs with
  | [] => simp [parentTableList, preorderList]
  | c :: cs' => simp [parentTableList, preorderList, parentTable_offsets par c, parentTableList_offsets par cs']
end

/-- `pos` of `raw entry` is the index in `rawEntries`, one list through all units.  The statement
    holds of any list: that the count is not restarted at a unit is in the shape of `rawEntries`,
    and held to dwgrep by the correspondence check (`raw entry pos`, zwv/c02.py) -/
theorem raw_positions (f : Forest) :
    ((rawEntries f).zipIdx.map (·.2)) = List.range (rawEntries f).length := by
  simp [List.range_eq_range']

end ZwVerif.C02
