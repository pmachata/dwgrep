import ZwVerif.Model.Render
import ZwVerif.Generated.TreeTypes
/-!
# C15 — notation does not change meaning

Facts about the lexer's rule tables (every byte of every start condition is
matched by a rule, so flex's echo-and-skip default rule is unreachable; the
comment pattern accepts C comments that end in a run of stars, on samples), about
the constructors the grammar actions use (`create_cat` of operands without a child of their own kind has none), and
about the simplifier's building blocks; and the ties that pin the hand-written rule
actions and tree types to lexer.ll and tree.hh.  The equivalences between whole
programs are checked by the metamorphic correspondence on the implementation.
-/
namespace ZwVerif.C15
open ZwVerif RE

def allBytes : List UInt8 := (List.range 256).map Nat.toUInt8

theorem longest_single {r : RE} {b : UInt8} (h : (deriv b r).nullable = true) : longest r [b] = some 1 := by
  have hne : deriv b r ≠ empty := fun e => by rw [e] at h; cases h
  simp [longest, longestAux, hne, h]

/-- `pick` holds a match from the first rule on that matches at all: a later rule replaces it only by a
    longer one -/
theorem pick_isSome {α : Type} {rules : List (RE × α × String)} {s : Bytes} {r : RE × α × String} {n : Nat}
    (hr : r ∈ rules) (h : longest r.1 s = some (n + 1)) : (pick rules s).isSome = true := by
  obtain ⟨a, b, rfl⟩ := List.append_of_mem hr
  rw [pick, List.foldl_append, List.foldl_cons, h]
  generalize List.foldl _ none a = best
  -- whatever the rules before `r` left, `r` leaves a match; every later rule keeps one
  refine List.foldlRecOn (motive := (Option.isSome · = true)) b _ ?_ fun best hb q _ => ?_
  · dsimp only
    rw [if_neg (Nat.succ_ne_zero n)]
    rcases best with _ | ⟨m, x⟩
    · rfl
    · dsimp only; split <;> rfl
  · obtain ⟨⟨m, x⟩, rfl⟩ := Option.isSome_iff_exists.1 hb
    dsimp only
    split
    · split
      · rfl
      · split <;> rfl
    · rfl

/-- flex's default rule (echo the byte to stdout and drop it) fires where no rule matches; in a start condition in
    which every byte has a rule that matches it alone, `pick` finds a rule for every one-byte input (that more input
    can only lengthen a match is not part of the statement).  The rules are scanned from the end: that is where a flex
    file keeps its catch-all rules, and comparing bytes is slow in the kernel. -/
theorem default_rule_unreachable {α : Type} (rules : List (RE × α × String))
    (h : allBytes.all (fun b => rules.reverse.any fun r => (deriv b r.1).nullable) = true) :
    allBytes.all (fun b => (pick rules [b]).isSome) = true := by
  rw [List.all_eq_true] at h ⊢
  intro b hb
  obtain ⟨r, hr, hd⟩ := List.any_eq_true.1 (h b hb)
  exact pick_isSome (List.mem_reverse.1 hr) (longest_single hd)

/-- in every start condition every byte is matched by some rule (F12: in STRING_EMBEDDED a newline
    was not; flex echoed it to stdout and dropped it from the splice) -/
theorem default_rule_unreachable_initial :
    allBytes.all (fun b => (pick initialRules [b]).isSome) = true := default_rule_unreachable _ (by decide +kernel)

theorem default_rule_unreachable_string :
    allBytes.all (fun b => (pick stringRules [b]).isSome) = true := default_rule_unreachable _ (by decide +kernel)

theorem default_rule_unreachable_embedded :
    allBytes.all (fun b => (pick embeddedRules [b]).isSome) = true := default_rule_unreachable _ (by decide +kernel)

/-- the C-comment pattern: comments ending in any number of stars are comments -/
def cComment : RE :=
  cat (lit "/*") (cat (star (alt (noneOf [one '*']) (cat (plus (chr '*')) (noneOf [one '*', one '/']))))
        (cat (plus (chr '*')) (chr '/')))

theorem c_comment_accepts :
    accepts cComment (s2b "/**/") = true ∧ accepts cComment (s2b "/***/") = true ∧
    accepts cComment (s2b "/* a **/") = true ∧ accepts cComment (s2b "/* a ***/") = true ∧
    accepts cComment (s2b "/* * / */") = true ∧ accepts cComment (s2b "/*/") = false ∧
    accepts cComment (s2b "/* */ */") = false := by decide +kernel

/-- the table regenerated from lexer.ll has a rule with that behaviour (and, being skipped, such comments vanish) -/
theorem c_comment_in_table :
    initialRules.any (fun r => accepts r.1 (s2b "/***/") && accepts r.1 (s2b "/* a **/") && accepts r.1 (s2b "/* * / */") &&
      !accepts r.1 (s2b "/*/") && !accepts r.1 (s2b "/* */ */")) = true := by decide +kernel

theorem c_comment_is_skipped :
    (pick initialRules (s2b "/***/x")).map (·.1) = some 5 ∧ (pick initialRules (s2b "/* a **/ 2")).map (·.1) = some 8 := by
  decide +kernel

/-! ### the tie with lexer.ll

The patterns of the three rule tables are regenerated from lexer.ll on every run
(Generated/LexerRules.lean); the actions are written by hand (Model/Lexer.lean), in file order.
The two theorems pin the pattern texts the actions were written for and a digest of every
action's C++ text (comments and white space removed): a rule added, removed, reordered or
re-patterned, or an action edited, breaks them. -/

def actionDigestsInitial : List String := ["3ed6c99fa8", "1a828239ce", "04c9a6e024", "d01847d50c", "1f37760302", "83dde7c7bd", "90fd32733c", "250d689b8f", "249bf83cfa", "b54e28aa62", "1adaf635da", "cfd7eb0a33", "32fb39a826", "093ad1d0d1", "53c6d799d2", "3fa81c232f", "f40688046a", "73ce832f74", "bbb09faf7a", "f1deb0353b", "df721aafd8", "cd80cd8e15", "0c84972e2b", "542e283ed1", "32003d0e8c", "2a963e237a", "a0ee2bbd52", "4973f05098", "d69b775ee0", "da39a3ee5e", "da39a3ee5e", "da39a3ee5e", "1a94d5a735", "cf942e99f3"]
def actionDigestsString : List String := ["8974c2f5ff", "a8e1b52fe0", "41654ea2c6", "abb2617d9f", "b95764c176", "dc7a29aa96", "0d698cfa5a", "44e90a4253", "20cf621710", "e4528b58ad", "2d1aecc04a", "ea99a28459", "3246d2682e", "c25eca9781"]
def actionDigestsEmbedded : List String := ["ff47dcb0c9", "afc685a5d1", "212d64e460", "c82b0149f9", "4f9d49a8c1", "73205edecb", "c25eca9781"]
def eofRules : List (String × String) := [("STRING", "3a97aa2d7a"), ("STRING_EMBEDDED", "f7722ac238"), ("INITIAL", "d982810ac6")]

theorem lexer_rules_tie :
    Generated.lex_INITIAL.map (·.2.1) = initialRulesTexts ∧ Generated.lex_STRING.map (·.2.1) = stringRulesTexts ∧
    Generated.lex_STRING_EMBEDDED.map (·.2.1) = embeddedRulesTexts ∧
    Generated.lex_INITIAL.length = initialRulesActs.length ∧ Generated.lex_STRING.length = stringRulesActs.length ∧
    Generated.lex_STRING_EMBEDDED.length = embeddedRulesActs.length := ⟨rfl, rfl, rfl, rfl, rfl, rfl⟩

theorem lexer_actions_tie :
    Generated.lex_INITIAL.map (·.2.2) = actionDigestsInitial ∧ Generated.lex_STRING.map (·.2.2) = actionDigestsString ∧
    Generated.lex_STRING_EMBEDDED.map (·.2.2) = actionDigestsEmbedded ∧ Generated.lex_EOF = eofRules := ⟨rfl, rfl, rfl, rfl⟩

/-- the tree types of the model, in the declaration order of tree.hh -/
def allTT : List TT :=
  [.CAT, .ALT, .OR, .CAPTURE, .SUBX_EVAL, .IFELSE, .SCOPE, .BLOCK, .BIND, .READ, .NOP, .CLOSE_STAR, .CLOSE_PLUS, .ASSERT,
   .EMPTY_LIST, .PRED_AND, .PRED_OR, .PRED_NOT, .PRED_SUBX_ANY, .CONST, .STR, .FORMAT, .F_DEBUG, .F_BUILTIN]

/-- what a node of each type carries besides children (the arity classes of tree.hh) -/
def ttArity : TT → String
  | .CAT | .ALT | .OR | .PRED_AND | .PRED_OR => "BINARY"
  | .CAPTURE | .BLOCK | .CLOSE_STAR | .CLOSE_PLUS | .ASSERT | .PRED_NOT | .PRED_SUBX_ANY => "UNARY"
  | .SUBX_EVAL | .CONST => "CST"
  | .IFELSE => "TERNARY"
  | .SCOPE => "SCOPE"
  | .BIND | .READ | .STR => "STR"
  | .NOP | .EMPTY_LIST | .FORMAT | .F_DEBUG => "NULLARY"
  | .F_BUILTIN => "BUILTIN"

/-- the model's tree types are exactly TREE_TYPES of tree.hh (regenerated on every run): same
    names — what the tree printer writes and the correspondence compares —, same order, same classes -/
theorem tree_types_tie : Generated.treeTypes = allTT.map fun t => (ttName t, ttArity t) := rfl

/-- `create_cat`: the result never has a child of its own kind when the operands had none -/
theorem createCat_flat (tt : TT) (a b : Tree)
    (ha : ∀ c ∈ a.children, c.tt ≠ tt) (hb : ∀ c ∈ b.children, c.tt ≠ tt) :
    ∀ r, Tree.createCat tt (some a) (some b) = some r → r.tt = tt ∧ ∀ c ∈ r.children, c.tt ≠ tt := by
  intro r hr
  simp only [Tree.createCat] at hr
  by_cases h1 : a.tt = tt <;> by_cases h2 : b.tt = tt <;>
    simp only [h1, h2, and_self, and_false, false_and, if_true, if_false, Option.some.injEq] at hr <;> subst hr
  · exact ⟨rfl, List.forall_mem_append.2 ⟨ha, hb⟩⟩
  · exact ⟨rfl, List.forall_mem_append.2 ⟨ha, List.forall_mem_singleton.2 h2⟩⟩
  · exact ⟨rfl, List.forall_mem_cons.2 ⟨h1, hb⟩⟩
  · exact ⟨rfl, List.forall_mem_cons.2 ⟨h1, List.forall_mem_singleton.2 h2⟩⟩

/-- the simplifier's promotion pass does nothing to children none of which has the parent's type
    (the shape `createCat_flat` guarantees) -/
theorem flattenOnce_noop (tt : TT) (cs : List Tree) (h : ∀ c ∈ cs, c.tt ≠ tt) :
    Tree.flattenOnce tt cs = cs := by
  unfold Tree.flattenOnce
  induction cs with
  | nil => rfl
  | cons c cs ih =>
    rw [List.forall_mem_cons] at h
    simp [List.flatMap_cons, h.1, ih h.2]

/-- escapes denote their byte: samples of the escape table and of `\x41`, `\101`; `\q`, not in the
    table, stands for itself (`lexString`) -/
theorem escape_table :
    escChar 'n'.toNat.toUInt8 = some 10 ∧ escChar 't'.toNat.toUInt8 = some 9 ∧
    escChar 'a'.toNat.toUInt8 = some 7 ∧ escChar 'e'.toNat.toUInt8 = some 27 ∧
    escChar 'q'.toNat.toUInt8 = none ∧ parseEscNum (s2b "41") 16 = 65 ∧ parseEscNum (s2b "101") 8 = 65 := by
  decide +kernel

end ZwVerif.C15
