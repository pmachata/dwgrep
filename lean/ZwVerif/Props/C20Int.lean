import ZwVerif.Model.Render
import ZwVerif.Lemmas.Int64
/-!
# C20 (integers) — every integer prints as a literal that reads back as the same value in the
same domain

Byte-level rendering of the four literal domains (`showLitB`: what `constant::operator<<` writes
for dec / hex / oct / bin in full form, the digits by repeated division as iostreams do) and the
model of `parse_int` (Model/Parser.lean).  `literal_roundtrip`: for EVERY integer of the engine
(−2^63 … 2^64−1) and each of the four domains, parsing the rendering yields that domain and
that value.
-/
namespace ZwVerif.C20Int
open ZwVerif

def digitB (d : Nat) : UInt8 := if d < 10 then (48 + d).toUInt8 else (87 + d).toUInt8

def auxB (base : Nat) : Nat → Nat → Bytes → Bytes
  | 0, _, acc => acc
  | fuel + 1, n, acc =>
    if n < base then digitB n :: acc
    else auxB base fuel (n / base) (digitB (n % base) :: acc)

/-- digits of `n` in `base`, most significant first, no prefix; "0" for 0 (natToBase, as bytes) -/
def digitsB (base n : Nat) : Bytes := auxB base 70 n []

theorem auxB_lt {base n : Nat} (h : n < base) (fuel : Nat) (acc : Bytes) :
    auxB base (fuel + 1) n acc = digitB n :: acc := if_pos h

theorem auxB_ge {base n : Nat} (h : ¬ n < base) (fuel : Nat) (acc : Bytes) :
    auxB base (fuel + 1) n acc = auxB base fuel (n / base) (digitB (n % base) :: acc) := if_neg h

theorem digitVal_digitB : ∀ d < 16, digitVal (digitB d) = some d := by decide

theorem aux_matches_render (base : Nat) (h0 : 0 < base) (hb : base ≤ 16) : ∀ (fuel n : Nat) (acc : Bytes),
    natToBaseAux base fuel n (acc.map fun b => Char.ofNat b.toNat) = (auxB base fuel n acc).map fun b => Char.ofNat b.toNat := by
  have hd : ∀ d < 16, digitChar d = Char.ofNat (digitB d).toNat := by decide
  intro fuel
  induction fuel with
  | zero => intro n acc; rfl
  | succ f ih =>
    intro n acc
    have hm : n % base < base := Nat.mod_lt _ h0
    by_cases h : n < base
    · rw [auxB_lt h, natToBaseAux, if_pos h, hd n (by omega)]; rfl
    · rw [auxB_ge h, natToBaseAux, if_neg h, ← ih, hd _ (by omega)]; rfl

theorem auxB_digits {base : Nat} (h2 : 2 ≤ base) (n : Nat) : ∀ (fuel : Nat) (acc : Bytes), n < base ^ (fuel + 1) →
    ∃ d ds, auxB base (fuel + 1) n acc = (d :: ds).map digitB ++ acc ∧ (∀ e ∈ d :: ds, e < base) ∧
      (1 ≤ n → 1 ≤ d) ∧ (d :: ds).foldl (fun a e => a * base + e) 0 = n := by
  induction n using Nat.strongRecOn with
  | _ n ih =>
    intro fuel acc hn
    by_cases h : n < base
    · exact ⟨n, [], auxB_lt h fuel acc, by simpa using h, id, by simp⟩
    · cases fuel with
      | zero => exact absurd (by simpa using hn) h
      | succ f =>
        obtain ⟨d, ds, he, hlt, hpos, hval⟩ := ih (n / base) (Nat.div_lt_self (by omega) (by omega)) f
          (digitB (n % base) :: acc) (Nat.div_lt_of_lt_mul (by rwa [Nat.pow_succ, Nat.mul_comm] at hn))
        refine ⟨d, ds ++ [n % base], ?_, ?_, fun _ => hpos (Nat.div_pos (by omega) (by omega)), ?_⟩
        · rw [auxB_ge h, he]; simp
        · exact List.forall_mem_append.mpr ⟨hlt, List.forall_mem_singleton.mpr (Nat.mod_lt _ (by omega))⟩
        · rw [← List.cons_append, List.foldl_append, hval]
          exact Nat.div_add_mod' n base

theorem digits_spec {base : Nat} (h2 : 2 ≤ base) {n : Nat} (hn : n < 2 ^ 64) :
    ∃ d ds, digitsB base n = (d :: ds).map digitB ∧ (∀ e ∈ d :: ds, e < base) ∧
      (1 ≤ n → 1 ≤ d) ∧ (d :: ds).foldl (fun a e => a * base + e) 0 = n := by
  have h70 : n < base ^ 70 :=
    calc n < 2 ^ 64 := hn
      _ ≤ 2 ^ 70 := Nat.pow_le_pow_right (by omega) (by omega)
      _ ≤ base ^ 70 := Nat.pow_le_pow_left h2 70
  obtain ⟨d, ds, he, h⟩ := auxB_digits h2 n 69 [] h70
  exact ⟨d, ds, he.trans (List.append_nil _), h⟩

theorem stoull_map_digitB {base : Nat} (h16 : base ≤ 16) : ∀ (ds : List Nat) (a k : Nat), (∀ e ∈ ds, e < base) →
    stoullDigits base (ds.map digitB) a k = (ds.foldl (fun a e => a * base + e) a, k + ds.length)
  | [], _, _, _ => rfl
  | e :: ds, a, k, h => by
    obtain ⟨he, hds⟩ := List.forall_mem_cons.mp h
    rw [List.map_cons, stoullDigits, digitVal_digitB e (by omega)]
    simp only [if_pos he]
    rw [stoull_map_digitB h16 ds _ _ hds]
    simp only [List.foldl_cons, List.length_cons, Nat.add_assoc, Nat.add_comm 1]

theorem stoull_digits (base : Nat) (h2 : 2 ≤ base) (h16 : base ≤ 16) (n : Nat) (hn : n < 2 ^ 64) :
    ∃ nd, 1 ≤ nd ∧ (digitsB base n).length = nd ∧ stoullDigits base (digitsB base n) 0 0 = (n, nd) := by
  obtain ⟨d, ds, he, hlt, -, hval⟩ := digits_spec h2 hn
  refine ⟨ds.length + 1, by omega, by simp [he], ?_⟩
  rw [he, stoull_map_digitB h16 _ 0 0 hlt, hval, Nat.zero_add, List.length_cons]

theorem digits_shape (base : Nat) (h2 : 2 ≤ base) (n : Nat) (hn : n < 2 ^ 64) :
    ∃ d ds, digitsB base n = digitB d :: ds ∧ d < base ∧ (1 ≤ n → 1 ≤ d) ∧ ∀ c ∈ ds, ∃ e, e < base ∧ c = digitB e := by
  obtain ⟨d, ds, he, hlt, hpos, -⟩ := digits_spec h2 hn
  obtain ⟨hd, hds⟩ := List.forall_mem_cons.mp hlt
  exact ⟨d, ds.map digitB, he, hd, hpos, List.forall_mem_map.mpr fun e he => ⟨e, hds e he, rfl⟩⟩

theorem digits_zero {base : Nat} (h2 : 2 ≤ base) : digitsB base 0 = [48] := auxB_lt (by omega) 69 []

theorem digitB_eq_zero : ∀ d < 16, digitB d = 48 → d = 0 := by decide

theorem digits_no_leading_zero (base : Nat) (h2 : 2 ≤ base) (h16 : base ≤ 16) (n : Nat) (hn : n < 2 ^ 64) :
    (digitsB base n).length ≤ 1 ∨ (digitsB base n).getD 0 0 ≠ 48 := by
  by_cases h0 : n = 0
  · rw [h0, digits_zero h2]; exact Or.inl (Nat.le_refl 1)
  · obtain ⟨d, ds, he, hd, hpos, -⟩ := digits_shape base h2 n hn
    have := hpos (by omega)
    rw [he]
    exact Or.inr fun h => absurd (digitB_eq_zero d (by omega) h) (by omega)

/-! ### `parse_int`, in two steps -/

/-- radix and domain by prefix, and the digits that remain -/
def classify (s : Bytes) : Nat × Dom × Bytes :=
  let c0 := s.getD 0 0
  let c1 := s.getD 1 0
  if s.length > 2 ∧ c0 = 48 ∧ (c1 = 120 ∨ c1 = 88) then (16, .hex, s.drop 2)
  else if s.length > 2 ∧ c0 = 48 ∧ (c1 = 98 ∨ c1 = 66) then (2, .bin, s.drop 2)
  else if s.length > 2 ∧ c0 = 48 ∧ (c1 = 111 ∨ c1 = 79) then (8, .oct, s.drop 2)
  else if s.length > 1 ∧ c0 = 48 then (8, .oct, s.drop 1)
  else (10, .dec, s)

/-- conversion of the digits, range check, sign -/
def finish (sign : Bool) (base : Nat) (dom : Dom) (body : Bytes) : IntLit :=
  let body' :=
    if base = 16 ∧ body.length > 2 ∧ body.getD 0 0 = 48 ∧ (body.getD 1 0 = 120 ∨ body.getD 1 0 = 88)
       ∧ isHexDigit (body.getD 2 0) = true then body.drop 2 else body
  let skipped := body.length - body'.length
  let (v, n) := stoullDigits base body' 0 0
  if n = 0 then .stoullNoConv
  else if v ≥ 2^64 then .outOfRange
  else if n + skipped < body.length then .invalid
  else
    let z : ZInt := ⟨v, false⟩
    if sign then
      match ZInt.neg z with
      | .ok r => .ok r dom
      | .error _ => .outOfRange
    else .ok z dom

theorem parseInt_eq (s : Bytes) :
    parseInt s =
      (let sign := decide (s.head? = some 45)
       let s' := if sign then s.drop 1 else s
       finish sign (classify s').1 (classify s').2.1 (classify s').2.2) := by
  -- the two sides differ only in how the test of the sign is written (`p` or `decide p = true`)
  unfold parseInt finish classify
  simp only [decide_eq_true_eq]
  rfl

theorem classify_hex (c : UInt8) (s : Bytes) : classify (48 :: 120 :: c :: s) = (16, .hex, c :: s) := by
  simp [classify]

theorem classify_bin (c : UInt8) (s : Bytes) : classify (48 :: 98 :: c :: s) = (2, .bin, c :: s) := by
  simp [classify]

/-- a leading 0 alone means octal when no radix letter (x X b B o O) follows it -/
theorem classify_oct (c : UInt8) (s : Bytes) (h : c ∉ [120, 88, 98, 66, 111, 79]) :
    classify (48 :: c :: s) = (8, .oct, c :: s) := by
  simp only [List.mem_cons, List.not_mem_nil, or_false, not_or] at h
  simp [classify, h]

/-- every prefix test asks for a leading 0 with something after it -/
theorem classify_dec (s : Bytes) (h : s.length ≤ 1 ∨ s.getD 0 0 ≠ 48) : classify s = (10, .dec, s) := by
  have h1 : ∀ p, ¬ (s.length > 2 ∧ s.getD 0 0 = 48 ∧ p) := fun p ⟨hl, h0, _⟩ => h.elim (by omega) (· h0)
  have h2 : ¬ (s.length > 1 ∧ s.getD 0 0 = 48) := fun ⟨hl, h0⟩ => h.elim (by omega) (· h0)
  simp only [classify, h1, h2, if_false]

/-- On a digit string the second-prefix rule of strtoull does not fire (`digits_no_leading_zero`), `stoull`
    reads all of it (`stoull_digits`), and the value is in range. -/
theorem finish_digits (sign : Bool) (base : Nat) (dom : Dom) (h2 : 2 ≤ base) (h16 : base ≤ 16) (n : Nat) (hn : n < 2 ^ 64) :
    finish sign base dom (digitsB base n) =
      (if sign then (match ZInt.neg ⟨n, false⟩ with | .ok r => IntLit.ok r dom | .error _ => .outOfRange)
       else .ok ⟨n, false⟩ dom) := by
  obtain ⟨nd, h1, hl, hs⟩ := stoull_digits base h2 h16 n hn
  have hskip := digits_no_leading_zero base h2 h16 n hn
  dsimp only [finish]
  rw [if_neg (by rintro ⟨-, hlen, h48, -⟩; exact hskip.elim (by omega) (· h48) : ¬ (base = 16 ∧ _)), hs]
  dsimp only
  rw [if_neg (by omega), if_neg (by omega), hl, Nat.sub_self, Nat.add_zero, if_neg (Nat.lt_irrefl nd)]

def radix : Dom → Nat
  | .hex => 16 | .oct => 8 | .bin => 2 | _ => 10

def radixPrefix : Dom → Bytes
  | .hex => [48, 120]      -- 0x
  | .oct => [48]           -- 0
  | .bin => [48, 98]       -- 0b
  | _ => []

/-- `constant::operator<<` in full form for the literal domains: sign, radix prefix, digits of the
    magnitude.  (Zero comes out as 0, 0x0, 00, 0b0 — the K4 repair.) -/
def showLitB (dom : Dom) (v : ZInt) : Bytes :=
  (if v.den < 0 then [45] else []) ++ radixPrefix dom ++ digitsB (radix dom) v.den.natAbs

def IsLiteralDom (d : Dom) : Prop := d = .dec ∨ d = .hex ∨ d = .oct ∨ d = .bin

theorem radix_bounds (dom : Dom) : 2 ≤ radix dom ∧ radix dom ≤ 16 := by
  cases dom <;> simp [radix]

theorem digitB_ne_minus : ∀ d < 16, digitB d ≠ 45 := by decide

theorem digitB_not_letter : ∀ d < 10, digitB d ∉ [120, 88, 98, 66, 111, 79] := by decide

theorem classify_rendering (dom : Dom) (hd : IsLiteralDom dom) (n : Nat) (hn : n < 2 ^ 64) :
    classify (radixPrefix dom ++ digitsB (radix dom) n) = (radix dom, dom, digitsB (radix dom) n) ∧
    (radixPrefix dom ++ digitsB (radix dom) n).head? ≠ some 45 := by
  have hb := radix_bounds dom
  obtain ⟨d, ds, he, hdl, -, -⟩ := digits_shape (radix dom) hb.1 n hn
  have hnz := digits_no_leading_zero (radix dom) hb.1 hb.2 n hn
  rw [he] at hnz ⊢
  rcases hd with rfl | rfl | rfl | rfl
  · exact ⟨classify_dec _ hnz, by simpa [radixPrefix] using digitB_ne_minus d (by omega)⟩
  · exact ⟨classify_hex _ _, by simp [radixPrefix]⟩
  · exact ⟨classify_oct _ _ (digitB_not_letter d (by simp [radix] at hdl; omega)), by simp [radixPrefix]⟩
  · exact ⟨classify_bin _ _, by simp [radixPrefix]⟩

theorem parseInt_signed (neg : Bool) (s : Bytes) (h : s.head? ≠ some 45) :
    parseInt ((if neg then [45] else []) ++ s) = finish neg (classify s).1 (classify s).2.1 (classify s).2.2 := by
  cases neg <;> simp [parseInt_eq, h]

/-- **every integer of the engine prints, in each literal domain, as a literal that reads back as
    the same value in the same domain** -/
theorem literal_roundtrip (dom : Dom) (hd : IsLiteralDom dom) (v : ZInt) (hv : v.WF) :
    ∃ v', parseInt (showLitB dom v) = .ok v' dom ∧ v'.WF ∧ v'.den = v.den := by
  have hr : -2^63 ≤ v.den ∧ v.den < 2^64 := ZInt.den_inRange hv
  have hmag : v.den.natAbs < 2 ^ 64 := by omega
  have hb := radix_bounds dom
  obtain ⟨hc, h45⟩ := classify_rendering dom hd _ hmag
  have hp := parseInt_signed (decide (v.den < 0)) _ h45
  rw [hc, finish_digits _ _ _ hb.1 hb.2 _ hmag, ← List.append_assoc] at hp
  unfold showLitB
  by_cases hneg : v.den < 0
  · simp only [hneg, decide_true, if_true] at hp ⊢
    -- the negation is exact, and −|v| = v is in range
    obtain ⟨r, hok, hwf, hden⟩ := ((ZInt.neg_exact ⟨v.den.natAbs, false⟩ hmag).of_eq
      (show -(v.den.natAbs : Int) = v.den by omega)).ok_of_inRange hr
    rw [hok] at hp
    exact ⟨r, hp, hwf, hden⟩
  · simp only [hneg, decide_false, if_false, Bool.false_eq_true] at hp ⊢
    exact ⟨_, hp, hmag, by rw [ZInt.den_mk_false]; omega⟩

/-- the renderings of two different values differ, in every literal domain (a corollary: printing
    is injective on values) -/
theorem literal_injective (dom : Dom) (hd : IsLiteralDom dom) (a b : ZInt) (ha : a.WF) (hb : b.WF)
    (h : showLitB dom a = showLitB dom b) : a.den = b.den := by
  obtain ⟨a', pa, _, da⟩ := literal_roundtrip dom hd a ha
  obtain ⟨b', pb, _, db⟩ := literal_roundtrip dom hd b hb
  rw [h, pb] at pa
  cases pa
  rw [← da, ← db]

/-! ### `showLitB` is what Model/Render.lean prints, character for byte -/

def b2c (b : UInt8) : Char := Char.ofNat b.toNat

theorem natToBase_chars (base n : Nat) (h0 : 0 < base) (hb : base ≤ 16) :
    (natToBase base n).toList = (digitsB base n).map b2c := by
  rw [natToBase, String.toList_ofList]
  exact aux_matches_render base h0 hb 70 n []

theorem lit_chars (dom : Dom) (p : String) (hp : p.toList = (radixPrefix dom).map b2c) (v : ZInt) :
    ((if v.den < 0 then "-" else "") ++ p ++ natToBase (radix dom) v.den.natAbs).toList = (showLitB dom v).map b2c := by
  have hb := radix_bounds dom
  rw [String.toList_append, String.toList_append, hp, natToBase_chars _ _ (by omega) hb.2, showLitB,
    List.map_append, List.map_append]
  split <;> rfl

/-- the string `showConst` prints for the four literal domains (full form) is `showLitB`, read as
    ASCII -/
theorem showConst_chars (tn : Nat → Option String) (dom : Dom) (hd : IsLiteralDom dom) (v : ZInt) :
    (showConst tn v dom false).toList = (showLitB dom v).map b2c := by
  by_cases h0 : v.den = 0
  · rcases hd with rfl | rfl | rfl | rfl <;>
      simp [showConst, showIntLit, showInt, showLitB, radix, radixPrefix, h0, digits_zero] <;> decide
  · have hm : v.den.natAbs ≠ 0 := by omega
    rcases hd with rfl | rfl | rfl | rfl <;>
      simp only [showConst, showIntLit, showInt, h0, hm, and_false, and_true, if_false, if_true, Bool.not_false,
        ne_eq, not_false_eq_true, Nat.reduceEqDiff, Bool.false_eq_true]
    · exact lit_chars .dec "" (by decide) v
    · exact lit_chars .hex "0x" (by decide) v
    · exact lit_chars .oct "0" (by decide) v
    · exact lit_chars .bin "0b" (by decide) v

example : showLitB .hex ⟨255, false⟩ = [48, 120, 102, 102] ∧ showLitB .oct ⟨0, false⟩ = [48, 48] ∧
    showLitB .dec ⟨2 ^ 64 - 1, true⟩ = [45, 49] ∧ showLitB .bin ⟨5, false⟩ = [48, 98, 49, 48, 49] := by decide

end ZwVerif.C20Int
