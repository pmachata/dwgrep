import ZwVerif.Lemmas.Ord3
import ZwVerif.Props.C09
/-!
# C09 — the comparison of values is ONE consistent total preorder, for every value

`Val.cmpAny` is what the comparison words use (`comparison_result`: the type first, then the
value class's `cmp`).  For all values that can be compared at all (`Ok`: no closure anywhere
inside — closures compare by object identity, which the property excepts), nested sequences to
any depth included:

* the comparison never fails and `a ? a` is "equal";
* `b ? a` is the mirror image of `a ? b` (so exactly one of `<`, `==`, `>` holds, and
  `A < B` iff `B > A`);
* `<` is transitive;
* values that compare equal compare alike with every third value (so `==` is symmetric and
  transitive, and `<` respects it).

The two things the build decides — the numeric codes of the value types and the order of the
constant-domain objects — are arbitrary injective maps (`TypeInj`, `RankInj`).
-/
namespace ZwVerif.C09
open ZwVerif

/-- distinct value types have distinct codes (`value_type::alloc`) -/
def TypeInj (cfg : Cfg) : Prop := ∀ a b : VT, cfg.typeCode a = cfg.typeCode b → a = b

mutual
/-- values the engine can compare: integers in range, no closure anywhere inside -/
def Ok : Val → Prop
  | .cst _ v _ => v.WF
  | .str .. => True
  | .seq _ es => OkL es
  | .aset .. => True
  | .clo .. => False
  | .ext .. => True
def OkL : List Val → Prop
  | [] => True
  | a :: as => Ok a ∧ OkL as
end

mutual
def depth : Val → Nat
  | .seq _ es => depthL es + 1
  | .cst .. | .str .. | .aset .. | .clo .. | .ext .. => 0
def depthL : List Val → Nat
  | [] => 0
  | a :: as => max (depth a) (depthL as)
end

theorem okL_iff {es : List Val} : OkL es ↔ ∀ e ∈ es, Ok e := by
  induction es <;> simp [OkL, *]

theorem depthL_mem {es : List Val} : ∀ e ∈ es, depth e ≤ depthL es := by
  induction es with
  | nil => nofun
  | cons a as ih =>
    rw [depthL, List.forall_mem_cons]
    exact ⟨Nat.le_max_left .., fun e he => Nat.le_trans (ih e he) (Nat.le_max_right ..)⟩

def cstO (cfg : Cfg) : Cmp (ZInt × Dom) := fun a b => some (cstCmp cfg a.1 a.2 b.1 b.2)

theorem cstO_good (cfg : Cfg) (hr : RankInj cfg) : GoodOn (cstO cfg) (fun a => a.1.WF) := by
  intro a b x ha hb hx
  refine ⟨congrArg some (cst_copy_equal cfg hr _ _ ha), ⟨_, rfl, congrArg some (cstCmp_swap cfg hr _ _ _ _ ha hb)⟩,
    ?_, ?_⟩ <;> simp only [cstO, Option.some.injEq]
  · rw [cstCmp_lt_iff, cstCmp_lt_iff, cstCmp_lt_iff]
    exact cst_lt_trans cfg hr _ _ _ _ _ _ ha hb hx
  · intro h
    rw [cst_eq_iff_key cfg hr _ _ _ _ ha hb] at h
    -- equal keys: the `<` tests against `x` come out alike
    have e1 : cstLt cfg a.1 a.2 x.1 x.2 = cstLt cfg b.1 b.2 x.1 x.2 := by
      rw [Bool.eq_iff_iff, cstLt_iff_key cfg hr _ _ _ _ ha hx, cstLt_iff_key cfg hr _ _ _ _ hb hx, h]
    have e2 : cstLt cfg x.1 x.2 a.1 a.2 = cstLt cfg x.1 x.2 b.1 b.2 := by
      rw [Bool.eq_iff_iff, cstLt_iff_key cfg hr _ _ _ _ hx ha, cstLt_iff_key cfg hr _ _ _ _ hx hb, h]
    unfold cstCmp
    rw [e1, e2]

theorem bytesCmp_lexFull (s t : Bytes) : some (bytesCmp s t) = lexFull (byNat UInt8.toNat) s t := by
  fun_induction bytesCmp s t <;> simp [lexFull, byNat, Ord3.cmpNat, ← UInt8.lt_iff_toNat_lt, *]

theorem bytes_good : GoodOn (fun s t : Bytes => some (bytesCmp s t)) (fun _ => True) :=
  (lexFull_byNat_good _).of_agree fun u v _ _ => bytesCmp_lexFull u v

theorem bytes_refl (a : Bytes) : bytesCmp a a = .eq :=
  Option.some.inj (bytes_good a a a trivial trivial trivial).refl

theorem bytes_converse (a b : Bytes) : bytesCmp a b = .lt ↔ bytesCmp b a = .gt := by
  obtain ⟨r, h1, h2⟩ := (bytes_good a b a trivial trivial trivial).swap
  rw [Option.some.inj h1, Option.some.inj h2]
  cases r <;> simp

theorem bytes_eq_iff (a b : Bytes) : bytesCmp a b = .eq ↔ a = b := by
  induction a generalizing b with
  | nil => cases b <;> simp [bytesCmp]
  | cons x xs ih =>
    cases b with
    | nil => simp [bytesCmp]
    | cons y ys =>
      simp only [bytesCmp, List.cons.injEq, ← ih, ← UInt8.toNat_inj, UInt8.lt_iff_toNat_lt, Ord3.ite_eq_cmpNat]
      rcases h : Ord3.cmpNat x.toNat y.toNat with _ | _ | _ <;> simp at h ⊢ <;> omega

theorem listNatCmp_lexFull (s t : List Nat) : some (listNatCmp s t) = lexFull (byNat id) s t := by
  fun_induction listNatCmp s t <;> simp [lexFull, byNat, Ord3.cmpNat, *]

theorem listNat_good : GoodOn (fun s t : List Nat => some (listNatCmp s t)) (fun _ => True) :=
  (lexFull_byNat_good _).of_agree fun u v _ _ => listNatCmp_lexFull u v

def rangeO : Cmp Range := lexO (byNat Prod.fst) (byNat Prod.snd)

theorem rangeO_good : GoodOn rangeO (fun _ => True) := (byNat_good _ _).lex (byNat_good _ _)

def ofInt (r : Int) : Ord3 := if r < 0 then .lt else if r > 0 then .gt else .eq

theorem cmpRanges_listO (c d : Cov) : some (ofInt (Cov.cmpRanges c d)) = cmpListO rangeO c d := by
  induction c generalizing d with
  | nil => cases d <;> rfl
  | cons r rs ih =>
    cases d with
    | nil => rfl
    | cons s ss =>
      simp only [Cov.cmpRanges, cmpListO, rangeO, lexO, byNat, Ord3.ite_eq_cmpNat]
      rcases Ord3.cmpNat r.1 s.1 with _ | _ | _
      · rfl
      · rcases Ord3.cmpNat r.2 s.2 with _ | _ | _
        · rfl
        · exact ih ss
        · rfl
      · rfl

theorem covCmp_lexO (c d : Cov) : some (covCmp c d) = lexO (byNat List.length) (cmpListO rangeO) c d := by
  simp only [covCmp, Cov.cmp, lexO, byNat, Ord3.ite_eq_cmpNat]
  rcases Ord3.cmpNat c.length d.length with _ | _ | _
  · rfl
  · exact cmpRanges_listO c d
  · rfl

theorem cov_good : GoodOn (fun c d : Cov => some (covCmp c d)) (fun _ => True) :=
  (lexO_byKey_good List.length id (fun _ _ => id) fun n =>
    (cmpListO_good rangeO_good n).mono fun _ h => ⟨h.2, fun _ _ => trivial⟩).of_agree fun u v _ _ => covCmp_lexO u v

def tcO (cfg : Cfg) : Cmp Val := byNat (fun v => cfg.typeCode v.vt)

theorem cmpAny_lexO (cfg : Cfg) (a b : Val) : Val.cmpAny cfg a b = lexO (tcO cfg) (Val.cmp cfg) a b := by
  simp only [Val.cmpAny, lexO, tcO, byNat]
  cases Ord3.cmpNat (cfg.typeCode a.vt) (cfg.typeCode b.vt) <;> rfl

theorem typesCmp_listO (cfg : Cfg) (e1 e2 : List Val) : some (typesCmp cfg e1 e2) = cmpListO (tcO cfg) e1 e2 := by
  induction e1 generalizing e2 with
  | nil => cases e2 <;> rfl
  | cons a as ih =>
    cases e2 with
    | nil => rfl
    | cons b bs =>
      simp only [typesCmp, cmpListO, tcO, byNat]
      rcases Ord3.cmpNat (cfg.typeCode a.vt) (cfg.typeCode b.vt) with _ | _ | _
      · rfl
      · exact ih bs
      · rfl

theorem cmpList_listO (cfg : Cfg) (e1 e2 : List Val) : Val.cmpList cfg e1 e2 = cmpListO (Val.cmp cfg) e1 e2 := by
  fun_induction cmpListO (Val.cmp cfg) e1 e2 <;> simp [Val.cmpList, *]

/-- where the types agree position by position, comparing the elements by `cmp` is comparing them
    by the full order -/
theorem listO_cmp_any (cfg : Cfg) (e1 e2 : List Val) (h : cmpListO (tcO cfg) e1 e2 = some .eq) :
    cmpListO (Val.cmp cfg) e1 e2 = cmpListO (Val.cmpAny cfg) e1 e2 := by
  rw [funext fun a => funext (cmpAny_lexO cfg a), cmpListO_lexO_of_eq h]

/-- `value_seq::cmp` spelled with the combinators -/
def seqO (cfg : Cfg) : Cmp (List Val) :=
  lexO (byNat List.length) (lexO (cmpListO (tcO cfg)) (cmpListO (Val.cmpAny cfg)))

theorem seq_cmp_eq (cfg : Cfg) (p q : Nat) (e1 e2 : List Val) :
    Val.cmp cfg (.seq p e1) (.seq q e2) = seqO cfg e1 e2 := by
  simp only [Val.cmp, seqO, lexO, byNat, ← typesCmp_listO, cmpList_listO]
  rcases Ord3.cmpNat e1.length e2.length with _ | _ | _
  · rfl
  · rcases h : typesCmp cfg e1 e2 with _ | _ | _
    · rfl
    · exact listO_cmp_any cfg e1 e2 (by rw [← typesCmp_listO, h])
    · rfl
  · rfl

theorem seqO_good (cfg : Cfg) (M : Val → Prop) (g : GoodOn (Val.cmpAny cfg) M) :
    GoodOn (seqO cfg) (fun l => ∀ e ∈ l, M e) :=
  lexO_byKey_good List.length id (fun _ _ => id) fun n =>
    ((cmpListO_good (byNat_good _ M) n).lex (cmpListO_good g n)).mono fun _ h => ⟨h.2, h.1⟩

/-- **the order of values is a consistent total preorder** (depth-indexed form) -/
theorem cmpAny_good_depth (cfg : Cfg) (hr : RankInj cfg) (ht : TypeInj cfg) :
    ∀ n, GoodOn (Val.cmpAny cfg) (fun v => Ok v ∧ depth v < n) := by
  intro n
  induction n with
  | zero => intro a _ _ ha; exact absurd ha.2 (by omega)
  | succ n ih =>
    have hseq {p es} (h : Ok (.seq p es) ∧ depth (.seq p es) < n + 1) e (he : e ∈ es) : Ok e ∧ depth e < n :=
      ⟨okL_iff.1 h.1 e he, by have := depthL_mem e he; have := h.2; simp only [depth] at this; omega⟩
    -- the type first; three values of one type are one constructor applied to positions, which the
    -- comparison ignores, and payloads: `Tri` of the payloads' order is `Tri` of `Val.cmp`
    refine (lexO_byKey_good Val.vt cfg.typeCode ht fun t => ?_).of_agree fun u v _ _ => cmpAny_lexO cfg u v
    rintro a b x ⟨ha, rfl⟩ ⟨hb, hvb⟩ ⟨hx, hvx⟩
    cases a <;> cases b <;> simp [Val.vt] at hvb <;> cases x <;> simp [Val.vt] at hvx
    case cst.cst.cst => exact (cstO_good cfg hr (_, _) (_, _) (_, _) ha.1 hb.1 hx.1).of_eq rfl rfl rfl rfl rfl
    case str.str.str => exact (bytes_good _ _ _ trivial trivial trivial).of_eq rfl rfl rfl rfl rfl
    case seq.seq.seq =>
      exact (seqO_good cfg _ ih _ _ _ (hseq ha) (hseq hb) (hseq hx)).of_eq (seq_cmp_eq ..) (seq_cmp_eq ..)
        (seq_cmp_eq ..) (seq_cmp_eq ..) (seq_cmp_eq ..)
    case aset.aset.aset => exact (cov_good _ _ _ trivial trivial trivial).of_eq rfl rfl rfl rfl rfl
    case clo.clo.clo => exact ha.1.elim
    case ext.ext.ext =>
      subst hvb hvx
      exact (listNat_good _ _ _ trivial trivial trivial).of_eq (if_pos rfl) (if_pos rfl) (if_pos rfl) (if_pos rfl)
        (if_pos rfl)

/-- **C09, for every comparable value** — whatever the nesting of sequences -/
theorem cmpAny_good (cfg : Cfg) (hr : RankInj cfg) (ht : TypeInj cfg) : GoodOn (Val.cmpAny cfg) Ok :=
  .of_bounded depth (cmpAny_good_depth cfg hr ht)

section clauses
variable (cfg : Cfg) (hr : RankInj cfg) (ht : TypeInj cfg)
include hr ht

theorem total (a b : Val) (ha : Ok a) (hb : Ok b) : ∃ r, Val.cmpAny cfg a b = some r :=
  let ⟨r, h, _⟩ := (cmpAny_good cfg hr ht a b a ha hb ha).swap
  ⟨r, h⟩

/-- a value equals itself (and its copy: positions are not compared) -/
theorem refl (a : Val) (ha : Ok a) : Val.cmpAny cfg a a = some .eq := (cmpAny_good cfg hr ht a a a ha ha ha).refl

/-- `A < B` iff `B > A`; `A == B` iff `B == A` -/
theorem converse (a b : Val) (ha : Ok a) (hb : Ok b) (r : Ord3) :
    Val.cmpAny cfg a b = some r ↔ Val.cmpAny cfg b a = some r.swap := by
  obtain ⟨s, h1, h2⟩ := (cmpAny_good cfg hr ht a b a ha hb ha).swap
  rw [h1, h2, Option.some.injEq, Option.some.injEq, Ord3.swap_inj]

theorem lt_trans (a b x : Val) (ha : Ok a) (hb : Ok b) (hx : Ok x) :
    Val.cmpAny cfg a b = some .lt → Val.cmpAny cfg b x = some .lt → Val.cmpAny cfg a x = some .lt :=
  (cmpAny_good cfg hr ht a b x ha hb hx).trans

theorem eq_trans (a b x : Val) (ha : Ok a) (hb : Ok b) (hx : Ok x) :
    Val.cmpAny cfg a b = some .eq → Val.cmpAny cfg b x = some .eq → Val.cmpAny cfg a x = some .eq := by
  intro h1 h2
  rw [(cmpAny_good cfg hr ht a b x ha hb hx).congr h1]; exact h2

/-- `<` is antisymmetric: never both ways, never together with `==` -/
theorem lt_asymm (a b : Val) (ha : Ok a) (hb : Ok b) :
    Val.cmpAny cfg a b = some .lt → Val.cmpAny cfg b a ≠ some .lt ∧ Val.cmpAny cfg b a ≠ some .eq := by
  intro h
  rw [(converse cfg hr ht a b ha hb .lt).1 h]
  decide

theorem eq_congr (a b x : Val) (ha : Ok a) (hb : Ok b) (hx : Ok x) :
    Val.cmpAny cfg a b = some .eq → Val.cmpAny cfg a x = Val.cmpAny cfg b x :=
  (cmpAny_good cfg hr ht a b x ha hb hx).congr

end clauses

theorem seq_by_length (cfg : Cfg) (p q : Nat) (e1 e2 : List Val) (h : e1.length < e2.length) :
    Val.cmpAny cfg (.seq p e1) (.seq q e2) = some .lt := by
  rw [cmpAny_lexO, lexO_of_eq (by simp [tcO, byNat, Val.vt]), seq_cmp_eq]
  exact lexO_of_lt (by simp [byNat, h])

/-- non-vacuity: a nested sequence with constants of several domains, a string and an address set
    is comparable, and `TypeInj` is satisfiable (this `domRank` is not injective: no instance of
    `RankInj` is given) -/
def exCfg : Cfg :=
  { typeCode := fun | .closure => 0 | .const => 1 | .seq => 2 | .str => 3 | .aset => 4 | .ext c => 5 + c
    domRank := fun d => (toString (repr d)).length }

example : Ok (.seq 0 [.cst 0 ⟨5, false⟩ .hex, .str 1 [104, 105], .seq 2 [.aset 0 [(16, 4)], .cst 1 ⟨1, true⟩ (.named "DW_TAG_")]]) := by
  simp [Ok, OkL, ZInt.WF]

example : TypeInj exCfg := by
  -- the codes can be decoded
  let dec : Nat → VT := fun | 0 => .closure | 1 => .const | 2 => .seq | 3 => .str | 4 => .aset | c + 5 => .ext c
  have hd : Function.LeftInverse dec exCfg.typeCode := by
    intro t
    cases t with
    | ext c => show dec (5 + c) = _; rw [Nat.add_comm]
    | _ => rfl
  exact fun _ _ h => hd.injective h

end ZwVerif.C09
