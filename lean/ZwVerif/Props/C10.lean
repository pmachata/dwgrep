import ZwVerif.Props.C01
/-!
# C10 — `*` on `sem`: no stack twice per input, the input first

The work-list algorithm of `op_tr_closure` as modelled by `semClose` / `closeStep`
(Model/Sem.lean): nothing is yielded twice (under the stack equality the engine
uses, `stackCmp … = eq`), whatever the body does and however long it runs; the
input itself comes first for `*`; the meaning on a stream is per input; and
the parser's collapsing of repeated suffixes.  That every reachable stack IS yielded, and the
same for `+`, is proved of the machine model of the operator, in Props/C10Closure.lean.
-/
namespace ZwVerif.C10
open ZwVerif

def Distinct (cfg : Cfg) (l : List Stack) : Prop :=
  l.Pairwise (fun earlier later => stackEq cfg later earlier = false)

def stacksOf (es : Evs) : List Stack := es.frames.map (·.stk)

theorem distinct_append_one (cfg : Cfg) (l : List Stack) (s : Stack) (h : Distinct cfg l)
    (hs : l.any (stackEq cfg s) = false) : Distinct cfg (l ++ [s]) :=
  List.pairwise_append.mpr ⟨h, List.pairwise_singleton .., fun a ha _ hb =>
    List.mem_singleton.mp hb ▸ (Bool.not_eq_true _).mp (List.any_eq_false.mp hs a ha)⟩

theorem stacksOf_append (a b : Evs) : stacksOf (a ++ b) = stacksOf a ++ stacksOf b := by
  simp [stacksOf]

theorem stacksOf_cutHard_sublist (es : Evs) : (stacksOf (cutHard es)).Sublist (stacksOf es) :=
  ((cutHard_sublist es).filterMap _).map _

theorem stacksOf_restoreEnv (env : List (Bytes × Val)) (es : Evs) : stacksOf (restoreEnv env es) = stacksOf es := by
  simp [stacksOf, Evs.frames_restoreEnv]

/-- one expansion step: the yielded stacks are exactly the ones added to the seen-set (and to
    the work-list), in order, and the seen-set stays duplicate-free -/
theorem closeStep_inv (ctx : Ctx) (f : Frame) (r : Evs) (seen work : List Stack)
    (h : Distinct ctx.cfg seen) :
    ∃ new, (closeStep ctx f r seen work).2.1 = seen ++ new ∧
           (closeStep ctx f r seen work).2.2 = work ++ new ∧
           stacksOf (closeStep ctx f r seen work).1 = new ∧
           Distinct ctx.cfg (seen ++ new) := by
  induction r generalizing seen work with
  | nil => exact ⟨[], (List.append_nil _).symm, (List.append_nil _).symm, rfl, by rwa [List.append_nil]⟩
  | cons e es ih =>
    cases e with
    | frame g =>
      rw [closeStep]
      split
      -- an error event takes the place of the frame: no new stack
      · exact ih seen work h
      · split
        · exact ih seen work h
        · next hs =>
          obtain ⟨new, h1, h2, h3, h4⟩ := ih (seen ++ [g.stk]) (work ++ [g.stk])
            (distinct_append_one _ _ _ h ((Bool.not_eq_true _).mp hs))
          rw [List.append_assoc] at h1 h2 h4
          exact ⟨g.stk :: new, h1, h2, congrArg (g.stk :: ·) h3, h4⟩
    -- noise is passed on and is no stack: the statement for `e :: es` computes to the one for `es`
    | _ => exact ih seen work h

/-- **nothing is yielded twice**: whatever the body does, the stacks the closure yields while
    working off its work-list are pairwise different (under the engine's stack equality) and
    different from everything seen before for this input. -/
theorem semClose_distinct (ctx : Ctx) (fuel : Nat) (body : Tree) (f : Frame) (seen work : List Stack)
    (h : Distinct ctx.cfg seen) :
    Distinct ctx.cfg (seen ++ stacksOf (semClose ctx fuel body f seen work)) := by
  induction fuel generalizing seen work with
  | zero => simpa [semClose, stacksOf] using h
  | succ n ih =>
    unfold semClose
    cases work with
    | nil => simpa [stacksOf] using h
    | cons w0 ws =>
      simp only
      split
      · simpa [stacksOf] using h
      · next w restRev _ =>
        obtain ⟨new, h1, -, h3, h4⟩ :=
          closeStep_inv ctx f (sem ctx n body [Ev.frame { f with stk := w }]) seen restRev.reverse h
        subst h3
        split
        · exact h4.sublist (.append (.refl seen) (stacksOf_cutHard_sublist _))
        · rw [stacksOf_append, ← List.append_assoc, ← h1]
          exact ih _ _ (h1 ▸ h4)

/-- `E*` on one input: no stack is yielded twice, the input itself included -/
theorem star_distinct (ctx : Ctx) (n : Nat) (pl : Payload) (c : Tree) (f : Frame) :
    Distinct ctx.cfg (stacksOf (sem1 ctx (n + 1) (.node .CLOSE_STAR pl [c]) f)) := by
  simp only [sem1]
  split
  · simp [stacksOf, unsupportedClo, Distinct]
  · have hsub := stacksOf_cutHard_sublist ([.frame f] ++ restoreEnv f.env (semClose ctx n c f [f.stk] [f.stk]))
    rw [stacksOf_append, stacksOf_restoreEnv] at hsub
    exact (semClose_distinct ctx n c f [f.stk] [f.stk] (by simp [Distinct])).sublist hsub

theorem star_yields_input_first (ctx : Ctx) (n : Nat) (pl : Payload) (c : Tree) (f : Frame)
    (hc : Val.hasCloList f.stk = false) :
    (sem1 ctx (n + 1) (.node .CLOSE_STAR pl [c]) f).head? = some (.frame f) := by
  simp [sem1, hc, cutHard]

/-- every input starts from a clean slate: the meaning on a stream is per input (C01); that the seen-set handed
    to the work-list holds the input alone is how `sem1` is defined on CLOSE_STAR -/
theorem fresh_per_input (ctx : Ctx) (n : Nat) (pl : Payload) (c : Tree) (es : Evs) :
    sem ctx (n + 1) (.node .CLOSE_STAR pl [c]) es =
      mapFrames (sem1 ctx n (.node .CLOSE_STAR pl [c])) es :=
  C01.sem_perframe ctx n _ (by simp [C01.PerFrame, Tree.tt]) es

/-! ### the parser collapses repeated suffixes (`E+*`, `E*+`, `E**`, `E++` mean one closure) -/

theorem suffix_star_star (k : Nat) (t : Tree) (rest : List Tok) (h : t.tt = .CLOSE_STAR) :
    parsePostfix (k + 1) t (.asterisk :: rest) = parsePostfix k t rest := by
  simp only [parsePostfix, h]

theorem suffix_plus_star (k : Nat) (p : Payload) (cs : List Tree) (rest : List Tok) :
    parsePostfix (k + 1) (.node .CLOSE_PLUS p cs) (.asterisk :: rest) =
      parsePostfix k (.node .CLOSE_STAR p cs) rest := by
  simp only [parsePostfix, Tree.tt, Tree.payload, Tree.children]

theorem suffix_closure_plus (k : Nat) (t : Tree) (rest : List Tok)
    (h : t.tt = .CLOSE_STAR ∨ t.tt = .CLOSE_PLUS) :
    parsePostfix (k + 1) t (.plus :: rest) = parsePostfix k t rest := by
  simp only [parsePostfix, h, if_true]

/-- `E?` is `(E, )` -/
theorem qmark_is_alt_nop (k : Nat) (t : Tree) (rest : List Tok) (h : t.tt ≠ .ALT) :
    parsePostfix (k + 1) t (.qmark :: rest) =
      parsePostfix k (.node .ALT .none [t, Tree.nop]) rest := by
  obtain ⟨tt, p, cs⟩ := t
  simp [Tree.tt] at h
  simp [parsePostfix, Tree.createCat, h, Tree.nop, Tree.mk0, Tree.tt]

end ZwVerif.C10
