import ZwVerif.Lemmas.SignExtend
/-!
# C07 — attribute values decode to the right type, value, sign and constant domain

`atValue` is driven by the dispatch tables regenerated from atval.cc on every run, so each
theorem below is re-checked against what the switch statements say now.
-/
namespace ZwVerif.C07
open ZwVerif.Dwarf ZwVerif.Atval ZwVerif.Generated

-- k = 1, 2, 4, 8, the fixed-size data forms; the powers of two are evaluated when the general
-- statement is matched against the numerals

theorem signExtend_roundtrip_1 (v : Int) (h1 : -128 ≤ v) (h2 : v < 128) : signExtend 1 (v % 256) = v :=
  signExtend_roundtrip (by decide) v h1 h2
theorem signExtend_roundtrip_2 (v : Int) (h1 : -32768 ≤ v) (h2 : v < 32768) : signExtend 2 (v % 65536) = v :=
  signExtend_roundtrip (by decide) v h1 h2
theorem signExtend_roundtrip_4 (v : Int) (h1 : -2147483648 ≤ v) (h2 : v < 2147483648) :
    signExtend 4 (v % 4294967296) = v :=
  signExtend_roundtrip (by decide) v h1 h2
theorem signExtend_roundtrip_8 (v : Int) (h1 : -9223372036854775808 ≤ v) (h2 : v < 9223372036854775808) :
    signExtend 8 (v % 18446744073709551616) = v :=
  signExtend_roundtrip (by decide) v h1 h2

theorem signExtend_spec_1 (b : Int) : (signExtend 1 b - b) % 256 = 0 ∧ -128 ≤ signExtend 1 b ∧ signExtend 1 b < 128 :=
  signExtend_spec (by decide) b
theorem signExtend_spec_2 (b : Int) :
    (signExtend 2 b - b) % 65536 = 0 ∧ -32768 ≤ signExtend 2 b ∧ signExtend 2 b < 32768 :=
  signExtend_spec (by decide) b
theorem signExtend_spec_4 (b : Int) :
    (signExtend 4 b - b) % 4294967296 = 0 ∧ -2147483648 ≤ signExtend 4 b ∧ signExtend 4 b < 2147483648 :=
  signExtend_spec (by decide) b
theorem signExtend_spec_8 (b : Int) :
    (signExtend 8 b - b) % 18446744073709551616 = 0 ∧ -9223372036854775808 ≤ signExtend 8 b ∧
      signExtend 8 b < 9223372036854775808 :=
  signExtend_spec (by decide) b

/-- the unsigned reading of a fixed-size form is the stored number as it is, whatever it is:
    `DAttr.num` holds the unsigned bit pattern already and `formudata` does not reduce it -/
theorem unsigned_roundtrip (form : Nat) (v : Int) (h : (dataWidth form).isSome) : formudata form v = some v := by
  simp [formudata, h]

/-! Facts read off a table are by `decide +kernel`: evaluated by the kernel alone and not by the
elaborator first, which on these tables costs several times as much. -/

theorem form_sdata : formActs.lookup DW_FORM_sdata = some .signed := by decide +kernel
theorem form_udata : formActs.lookup DW_FORM_udata = some .unsigned := by decide +kernel
theorem dataWidth_forms (form : Nat) (h : (dataWidth form).isSome) :
    form = DW_FORM_data1 ∨ form = DW_FORM_data2 ∨ form = DW_FORM_data4 ∨ form = DW_FORM_data8 := by
  refine Decidable.by_contra fun hn => ?_
  simp only [not_or] at hn
  simp [dataWidth, hn] at h

theorem data_not_block (form : Nat) (h : (dataWidth form).isSome) : isBlock form = false := by
  rcases dataWidth_forms form h with h | h | h | h <;> rw [h] <;> decide

theorem form_data (form : Nat) (h : (dataWidth form).isSome) : formActs.lookup form = some .dependent := by
  rcases dataWidth_forms form h with h | h | h | h <;> rw [h] <;> decide +kernel

theorem atValue_data {f : Forest} {d : Die} {p : Option Die} {a : DAttr} (h : (dataWidth a.form).isSome) :
    atValue f d p a = dependent f d p a := by
  simp only [atValue, form_data a.form h]

theorem atvalSigned_data {form k : Nat} (h : dataWidth form = some k) (v : Int) :
    atvalSigned form v = .cst "dec" (signExtend k v) := by
  simp only [atvalSigned, formsdata, h]

theorem atvalUnsignedDom_data {form : Nat} (h : (dataWidth form).isSome) (dom : String) (v : Int) :
    atvalUnsignedDom dom form v = .cst dom v := by
  simp only [atvalUnsignedDom, unsigned_roundtrip form v h]

/-- **`sdata` is signed, whatever the attribute** -/
theorem sdata_decodes_signed (f : Forest) (d : Die) (p : Option Die) (a : DAttr) (v : Int)
    (hf : a.form = DW_FORM_sdata) (hv : a.num = some v) :
    atValue f d p a = ⟨.cst "dec" v, false⟩ := by
  simp only [atValue, hf, form_sdata, hv]
  rfl

/-- **`udata` is unsigned, whatever the attribute** -/
theorem udata_decodes_unsigned (f : Forest) (d : Die) (p : Option Die) (a : DAttr) (v : Int)
    (hf : a.form = DW_FORM_udata) (hv : a.num = some v) :
    atValue f d p a = ⟨.cst "dec" v, false⟩ := by
  simp only [atValue, hf, form_udata, hv]
  rfl

theorem flags_are_booleans (f : Forest) (d : Die) (p : Option Die) (a : DAttr)
    (hf : a.form = 12 ∨ a.form = 25) :
    ∃ b : Int, (b = 0 ∨ b = 1) ∧ atValue f d p a = ⟨.cst "bool" b, false⟩ := by
  have hl : formActs.lookup a.form = some .flag := by rcases hf with h | h <;> rw [h] <;> decide +kernel
  simp only [atValue, hl]
  exact ⟨_, by split <;> simp, rfl⟩

theorem addresses_are_address_constants (f : Forest) (d : Die) (p : Option Die) (a : DAttr) (v : Int)
    (hf : a.form = 1) (hv : a.num = some v) :
    atValue f d p a = ⟨.cst "Dwarf_Address" v, false⟩ := by
  have hl : formActs.lookup a.form = some .addr := by rw [hf]; decide +kernel
  simp only [atValue, hl, hv, Option.getD_some]

theorem strings_are_strings (f : Forest) (d : Die) (p : Option Die) (a : DAttr)
    (hf : a.form = 8 ∨ a.form = 14 ∨ a.form = 31 ∨ a.form = 26 ∨ a.form = 37 ∨ a.form = 38 ∨ a.form = 39 ∨ a.form = 40) :
    atValue f d p a = ⟨.str, false⟩ := by
  have hl : formActs.lookup a.form = some .str := by
    rcases hf with h | h | h | h | h | h | h | h <;> rw [h] <;> decide +kernel
  simp only [atValue, hl]

theorem references_are_dies (f : Forest) (d : Die) (p : Option Die) (a : DAttr) (t : Nat)
    (hf : a.form = 16 ∨ a.form = 17 ∨ a.form = 18 ∨ a.form = 19 ∨ a.form = 20 ∨ a.form = 21) (hr : a.ref = some t) :
    atValue f d p a = ⟨.die t, false⟩ := by
  have hl : formActs.lookup a.form = some .ref := by
    rcases hf with h | h | h | h | h | h <;> rw [h] <;> decide +kernel
  simp only [atValue, hl, hr]

/-- the pairing the DWARF standard gives: attribute code, constant family -/
def enumeratedAttributes : List (Nat × String) :=
  [(0x13, "DW_LANG_"), (0x20, "DW_INL_"), (0x3e, "DW_ATE_"), (0x32, "DW_ACCESS_"), (0x17, "DW_VIS_"),
   (0x4c, "DW_VIRTUALITY_"), (0x42, "DW_ID_"), (0x36, "DW_CC_"), (0x09, "DW_ORD_"), (0x5e, "DW_DS_"),
   (0x33, "DW_ADDR_"), (0x65, "DW_END_"), (0x8b, "DW_DEFAULTED_"),
   (0x3b, "line_number"), (0x59, "line_number"), (0x39, "column_number"), (0x57, "column_number")]

/-- the regenerated table of atval.cc pairs every enumerated attribute with its own family -/
theorem enumerated_table : ∀ e ∈ enumeratedAttributes, atActs.lookup e.1 = some (.udom e.2) := by decide +kernel

/-- **enumerated attributes decode as the matching named constant**, in any fixed-size data form -/
theorem enumerated_attribute_domain (f : Forest) (d : Die) (p : Option Die) (a : DAttr) (v : Int) (dom : String)
    (he : (a.name, dom) ∈ enumeratedAttributes) (hw : (dataWidth a.form).isSome) (hv : a.num = some v) :
    atValue f d p a = ⟨.cst dom v, false⟩ := by
  simp only [atValue_data hw, dependent, enumerated_table _ he, hv, Option.getD_some, atvalUnsignedDom_data hw]

/-- strides and scales may be negative: read as signed in every width, so that a fixed-size form and
    sdata give the same number -/
def signedAttributes : List Nat := [0x51, 0x2e, 0x5b, 0x5c]     -- byte_stride, bit_stride, binary_scale, decimal_scale

theorem signed_table : ∀ a ∈ signedAttributes, atActs.lookup a = some .signed := by decide +kernel

theorem signed_attribute_value (f : Forest) (d : Die) (p : Option Die) (a : DAttr) (k : Nat) (bits : Int)
    (hs : a.name ∈ signedAttributes) (hw : dataWidth a.form = some k) (hv : a.num = some bits) :
    atValue f d p a = ⟨.cst "dec" (signExtend k bits), false⟩ := by
  simp only [atValue_data (Option.isSome_of_eq_some hw), dependent, signed_table _ hs, hv, Option.getD_some,
    atvalSigned_data hw]

theorem const_value_rule : atActs.lookup DW_AT_const_value = some .constValue := by decide +kernel

theorem atValue_const_value {f : Forest} {d : Die} {p : Option Die} {a : DAttr} {t : Die}
    (hn : a.name = DW_AT_const_value) (hw : (dataWidth a.form).isSome)
    (hd : (d.tag == DW_TAG_enumerator) = false) (ht : getTypeDie f 64 d = some t) :
    atValue f d p a = constValueTyped f a t := by
  simp only [atValue_data hw, dependent, hn, const_value_rule, constValue, hd, constValueFrom, ht,
    Bool.false_eq_true, ↓reduceIte]

theorem constValueTyped_base {f : Forest} {a : DAttr} {t : Die} {bits enc : Int} {o : Out}
    (hw : (dataWidth a.form).isSome) (hv : a.num = some bits) (hb : t.tag = DW_TAG_base_type)
    (he : (dwIntegrate f libdwChain t DW_AT_encoding).isSome) (hen : encodingOf f t = some enc)
    (ho : handleEncodingData a.form bits enc = some o) :
    constValueTyped f a t = ⟨o, false⟩ := by
  simp +decide only [constValueTyped, hb, he, hen, handleEncoding, data_not_block _ hw, hv, Option.getD_some, ho,
    Bool.false_eq_true, ↓reduceIte]

/-- a non-enumerator whose type peels to a base type with a signed encoding: the stored bits read
    as two's complement of the form's width -/
theorem const_value_signed_type (f : Forest) (d : Die) (p : Option Die) (a : DAttr) (t : Die) (k : Nat) (bits enc : Int)
    (hn : a.name = DW_AT_const_value) (hw : dataWidth a.form = some k) (hv : a.num = some bits)
    (hd : (d.tag == DW_TAG_enumerator) = false)
    (ht : getTypeDie f 64 d = some t) (hb : t.tag = DW_TAG_base_type)
    (he : (dwIntegrate f libdwChain t DW_AT_encoding).isSome) (hen : encodingOf f t = some enc)
    (hs : enc = 5 ∨ enc = 6) :
    atValue f d p a = ⟨.cst "dec" (signExtend k bits), false⟩ := by
  have hw' := Option.isSome_of_eq_some hw
  rw [atValue_const_value hn hw' hd ht, constValueTyped_base hw' hv hb he hen (if_pos hs), atvalSigned_data hw]

/-- … with an unsigned encoding: the stored bits as they are -/
theorem const_value_unsigned_type (f : Forest) (d : Die) (p : Option Die) (a : DAttr) (t : Die) (k : Nat) (bits enc : Int)
    (hn : a.name = DW_AT_const_value) (hw : dataWidth a.form = some k) (hv : a.num = some bits)
    (hd : (d.tag == DW_TAG_enumerator) = false)
    (ht : getTypeDie f 64 d = some t) (hb : t.tag = DW_TAG_base_type)
    (he : (dwIntegrate f libdwChain t DW_AT_encoding).isSome) (hen : encodingOf f t = some enc)
    (hs : enc = 7 ∨ enc = 8) :
    atValue f d p a = ⟨.cst "dec" bits, false⟩ := by
  have hw' := Option.isSome_of_eq_some hw
  have ho : handleEncodingData a.form bits enc = some (atvalUnsignedDom "dec" a.form bits) := by
    rcases hs with rfl | rfl <;> rfl
  rw [atValue_const_value hn hw' hd ht, constValueTyped_base hw' hv hb he hen ho, atvalUnsignedDom_data hw']

/-- … with a boolean encoding: a constant of the boolean domain -/
theorem const_value_boolean_type (f : Forest) (d : Die) (p : Option Die) (a : DAttr) (t : Die) (k : Nat) (bits : Int)
    (hn : a.name = DW_AT_const_value) (hw : dataWidth a.form = some k) (hv : a.num = some bits)
    (hd : (d.tag == DW_TAG_enumerator) = false)
    (ht : getTypeDie f 64 d = some t) (hb : t.tag = DW_TAG_base_type)
    (he : (dwIntegrate f libdwChain t DW_AT_encoding).isSome) (hen : encodingOf f t = some 2) :
    atValue f d p a = ⟨.cst "bool" bits, false⟩ := by
  have hw' := Option.isSome_of_eq_some hw
  rw [atValue_const_value hn hw' hd ht, constValueTyped_base hw' hv hb he hen rfl, atvalUnsignedDom_data hw']

/-- a pointer type: an address constant -/
theorem const_value_pointer_type (f : Forest) (d : Die) (p : Option Die) (a : DAttr) (t : Die) (k : Nat) (bits : Int)
    (hn : a.name = DW_AT_const_value) (hw : dataWidth a.form = some k) (hv : a.num = some bits)
    (hd : (d.tag == DW_TAG_enumerator) = false)
    (ht : getTypeDie f 64 d = some t) (hb : t.tag = DW_TAG_pointer_type) :
    atValue f d p a = ⟨.cst "Dwarf_Address" bits, false⟩ := by
  have hw' := Option.isSome_of_eq_some hw
  simp +decide only [atValue_const_value hn hw' hd ht, constValueTyped, hb, ↓reduceIte, hv, Option.getD_some,
    atvalUnsignedDom_data hw']

/-- the type walk goes through typedefs and cv-qualifiers -/
theorem type_walk_peels (f : Forest) (fuel : Nat) (d t : Die) (a : DAttr) (tref : Nat)
    (h1 : dwIntegrate f libdwChain d DW_AT_type = some a) (h2 : a.ref = some tref) (h3 : findDie f tref = some t)
    (hk : keepPeeling t.tag = true) :
    getTypeDie f (fuel + 1) d = getTypeDie f fuel t := by
  simp [getTypeDie, h1, h2, h3, hk]

theorem typedef_cv_are_peeled :
    keepPeeling DW_TAG_typedef = true ∧ keepPeeling DW_TAG_const_type = true ∧ keepPeeling DW_TAG_volatile_type = true ∧
    keepPeeling DW_TAG_restrict_type = true ∧ keepPeeling DW_TAG_base_type = false ∧
    keepPeeling DW_TAG_enumeration_type = false ∧ keepPeeling DW_TAG_pointer_type = false := by decide

/-- a form the dispatch does not list is refused with an error, never decoded as something else -/
theorem unknown_form_reported (f : Forest) (d : Die) (p : Option Die) (a : DAttr)
    (h : formActs.lookup a.form = none) :
    atValue f d p a = ⟨.err "Unhandled DWARF form", false⟩ := by
  have : formDefaultThrows = true := by decide
  simp only [atValue, h, this, ↓reduceIte]

/-- a fixed-size datum of an attribute without a signedness rule (and not a vendor attribute) is
    refused with an error -/
theorem unknown_signedness_reported (f : Forest) (d : Die) (p : Option Die) (a : DAttr)
    (hw : (dataWidth a.form).isSome) (hn : atActs.lookup a.name = none)
    (hu : ¬ (DW_AT_lo_user ≤ a.name ∧ a.name ≤ DW_AT_hi_user)) :
    atValue f d p a = ⟨.err "Signedness of attribute not handled", false⟩ := by
  have h1 : atFinalThrow = true := by decide
  simp [atValue_data hw, dependent, hn, dependentTail, data_not_block _ hw, hu, h1]

/-- DW_FORM_ref_sig8 is reported with a diagnostic and a placeholder string -/
theorem sig8_reported (f : Forest) (d : Die) (p : Option Die) (a : DAttr) (h : a.form = 32) :
    atValue f d p a = ⟨.sig8, true⟩ := by
  have hl : formActs.lookup a.form = some .sig8 := by rw [h]; decide +kernel
  simp only [atValue, hl]

/-- non-vacuity: a variable of type `const int` (typedef'd) with a data1 const_value of 0xff is -1 -/
example :
    let int_ : Die := .mk 20 0x24 false [{ name := 0x3e, form := 11, ref := none, num := some 5 }] []
    let td : Die := .mk 30 0x16 false [{ name := 0x49, form := 19, ref := some 20 }] []
    let ct : Die := .mk 40 0x26 false [{ name := 0x49, form := 19, ref := some 30 }] []
    let a : DAttr := { name := 0x1c, form := 11, ref := none, num := some 255 }
    let v : Die := .mk 50 0x34 false [{ name := 0x49, form := 19, ref := some 40 }, a] []
    let f : Forest := [⟨0, 4, .mk 11 0x11 true [] [int_, td, ct, v]⟩]
    atValue f v none a = ⟨.cst "dec" (-1), false⟩ := by
  decide +kernel

end ZwVerif.C07
