import ZwVerif.Model.Bind
-- `shadow_accepted` and `unbound_rejected` are stated with a binder (`hs`, `pl`) that nothing uses
set_option linter.unusedVariables false
/-!
# C03 — names resolve lexically

Compile time (`check`, the model of bindings.cc / build.cc): rebinding in one scope
and reading an unbound name are errors; a SCOPE, an ALT, an OR, an assertion, a format string or a
block as a whole lets no binding escape (between the branches of an OR, and out of an `if` whose arms the parser
has not wrapped in a SCOPE, the model does pass bindings on, as build.cc does).  Run time (`sem`): a read pushes the value of
the innermost binding; a block carries the values its free names had when it was
created and runs its body with exactly those.
-/
namespace ZwVerif.C03
open ZwVerif

/-- a read sees the innermost binding of its name -/
theorem lookup_innermost (n : Bytes) (v : Val) (env : List (Bytes × Val)) :
    lookupEnv n ((n, v) :: env) = some v := if_pos rfl

/-- inner binders of other names do not hide it -/
theorem lookup_skips_other (n m : Bytes) (w : Val) (env : List (Bytes × Val)) (h : m ≠ n) :
    lookupEnv n ((m, w) :: env) = lookupEnv n env := if_neg h

/-- rebinding a name in the scope that already binds it is a compile-time error -/
theorem rebind_rejected (s : Scopes) (n : Bytes) (c : List Bytes) (cs : List (List Bytes))
    (hs : s.chain = c :: cs) (hn : n ∈ c) : s.bind n = .error (.rebound n) := by
  simp [Scopes.bind, hs, hn]

/-- … while shadowing in an inner scope is fine -/
theorem shadow_accepted (s : Scopes) (n : Bytes) (hs : s.chain ≠ []) :
    ∃ s', s.push.bind n = .ok s' :=
  -- the scope just pushed is empty
  ⟨_, rfl⟩

/-- reading a name that is neither bound, nor an up-value, nor a builtin is a compile-time error -/
theorem unbound_rejected (known : Bytes → Bool) (pl : Payload) (n : Bytes) (s : Scopes)
    (h1 : s.visible n = false) (h2 : known n = false) :
    check known (.node .READ (.str n) []) s = .error (.unbound n) := by
  rw [check, h1, h2]
  rfl

/-- `check` of a node that opens a context is `do let _ ← (check of the inside); pure s`:
    whatever the inside computes, what comes out is the `s` that went in -/
theorem eq_of_discard_ok {ε α β : Type} {x : Except ε α} {s s' : β}
    (h : (do let _ ← x; pure s) = Except.ok s') : s' = s := by
  cases x with
  | error e => cases h
  | ok a => exact (Except.ok.inj h).symm

/-- **bindings never leak**: whatever a sub-expression context binds, the scope chain after it
    is the one before it — for SCOPE (let bodies, arms, captures, closures, parenthesised
    binder blocks), every ALT and OR branch, assertion sub-expressions, format splices, blocks. -/
theorem scope_no_leak (known : Bytes → Bool) (pl : Payload) (c : Tree) (s s' : Scopes)
    (h : check known (.node .SCOPE pl [c]) s = .ok s') : s' = s := by
  rw [check] at h
  exact eq_of_discard_ok h

theorem alt_no_leak (known : Bytes → Bool) (pl : Payload) (cs : List Tree) (s s' : Scopes)
    (h : check known (.node .ALT pl cs) s = .ok s') : s' = s := by
  rw [check] at h
  exact eq_of_discard_ok h

theorem or_no_leak (known : Bytes → Bool) (pl : Payload) (cs : List Tree) (s s' : Scopes)
    (h : check known (.node .OR pl cs) s = .ok s') : s' = s := by
  rw [check] at h
  exact eq_of_discard_ok h

theorem assertion_no_leak (known : Bytes → Bool) (pl : Payload) (c : Tree) (s s' : Scopes)
    (h : check known (.node .PRED_SUBX_ANY pl [c]) s = .ok s') : s' = s := by
  rw [check] at h
  exact eq_of_discard_ok h

theorem splice_no_leak (known : Bytes → Bool) (pl : Payload) (cs : List Tree) (s s' : Scopes)
    (h : check known (.node .FORMAT pl cs) s = .ok s') : s' = s := by
  rw [check] at h
  exact eq_of_discard_ok h

theorem block_no_leak (known : Bytes → Bool) (pl : Payload) (c : Tree) (s s' : Scopes)
    (h : check known (.node .BLOCK pl [c]) s = .ok s') : s' = s := by
  rw [check] at h
  exact eq_of_discard_ok h

/-- the rightmost identifier of a binder list is bound first, i.e. takes the top of stack -/
theorem idlist_rightmost_first (ws : List Bytes) (rest : List Tok)
    (hr : ∀ w r, rest ≠ .word w :: r) :
    parseIdList (ws.map Tok.word ++ rest) [] = (ws.reverse, rest) := by
  suffices H : ∀ acc, parseIdList (ws.map Tok.word ++ rest) acc = (ws.reverse ++ acc, rest) by
    simpa using H []
  induction ws with
  | nil =>
    intro acc
    -- `rest` does not start with a word: the catch-all equation applies
    rw [parseIdList]
    · rfl
    · exact hr
  | cons w ws ih => intro acc; simp [parseIdList, ih]

/-- a block captures the values its free names have when it is created … -/
theorem block_captures_creation_env (ctx : Ctx) (n : Nat) (pl : Payload) (c : Tree) (f : Frame) :
    sem1 ctx (n + 1) (.node .BLOCK pl [c]) f =
      [.frame { f with stk := .clo 0 c (f.env.map (·.1)) (f.env.map (·.2)) :: f.stk }] := by
  simp only [sem1, withStk]

/-- … and applying it (explicitly or by reading the name it is bound to) runs the body with
    exactly those values, on the rest of the stack; the caller's names are back afterwards. -/
theorem apply_is_inline (ctx : Ctx) (n : Nat) (env : List (Bytes × Val)) (p : Nat) (body : Tree)
    (names : List Bytes) (vals : List Val) (r : Stack) :
    applyIfClosure ctx (n + 1) ⟨env, .clo p body names vals :: r⟩ =
      restoreEnv env (sem ctx n body [.frame ⟨names.zip vals, r⟩]) := by
  simp only [applyIfClosure]

/-- binder: pops the top of stack into the innermost scope -/
theorem bind_pops_tos (ctx : Ctx) (n : Nat) (name : Bytes) (env : List (Bytes × Val)) (v : Val) (r : Stack) :
    sem1 ctx (n + 1) (.node .BIND (.str name) []) ⟨env, v :: r⟩ = [.frame ⟨(name, v) :: env, r⟩] := by
  simp only [sem1]

/-- leaving a scope at run time forgets exactly the bindings made inside -/
theorem dropInner_restores (d : Nat) (inner : List (Bytes × Val)) (env : List (Bytes × Val)) (stk : Stack)
    (h : env.length = d) :
    dropInner d [.frame ⟨inner ++ env, stk⟩] = [.frame ⟨env, stk⟩] := by
  subst h
  simp only [dropInner, List.map, List.length_append, Nat.add_sub_cancel, List.drop_left']

end ZwVerif.C03
