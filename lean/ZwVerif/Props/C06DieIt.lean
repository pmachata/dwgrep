import ZwVerif.Model.DieIt
import ZwVerif.Lemmas.Forest
/-!
# C06 (mechanism) — the cooked DIE producer inlines imports in place, recursively

`producer_refines`: the die_it_producer machine over a range of DIEs has a drain that yields the
`Cooked` view of that range (that it has no other is not proved) — every DIE that is not a resolvable import, with the chain of
imports it was reached through, and in place of every resolvable import the cooked view of the
unit it imports — for `entry` (ranges of all DIEs) and `child` (ranges of children) alike, for
any nesting.  `cookedBelow_of_cooked` / `cookedChildren_of_cooked` say the functions of
Model/Dwarf.lean compute that view.
-/
namespace ZwVerif.DieIt
open ZwVerif.Dwarf

theorem Drain.of_next {f : Forest} {range : Die → List Die} {st st0 st' : St} {out : List CDie}
    (h : ∀ r s, Next f range st0 r s → Next f range st r s) (hd : Drain f range st0 out st') : Drain f range st out st' := by
  cases hd with
  | nil hn => exact .nil (h _ _ hn)
  | cons hn hr => exact .cons (h _ _ hn) hr

/-- a range on top of the stack yields its cooked view and is then popped, with one link of the chain
    (`Next.dropFinished`): the drain goes on from `rest` and `chain.tail` -/
theorem range_drain (f : Forest) (range : Die → List Die) (ds : List Die) (chain : List Nat) (out : List CDie)
    (hc : Cooked f range ds chain out) :
    ∀ (rest : List (List Die)) (outs' : List CDie) (st' : St),
      Drain f range { stack := rest, chain := chain.tail } outs' st' →
      Drain f range { stack := ds :: rest, chain := chain } (out ++ outs') st' := by
  induction hc with
  | nil => exact fun rest outs' st' hd => hd.of_next fun _ _ hn => .dropFinished rfl hn
  | plain hn _ ih => exact fun rest outs' st' hd => .cons (.yield rfl hn) (ih rest outs' st' hd)
  | @imp d root ds chain out1 out2 hi _ _ ih1 ih2 =>
    intro rest outs' st' hd
    rw [List.append_assoc]
    exact (ih1 (ds :: rest) (out2 ++ outs') st' (ih2 rest outs' st' hd)).of_next fun _ _ hn => .importUnit rfl hi hn

/-- **the producer yields the cooked view of its range and then ends** -/
theorem producer_refines (f : Forest) (range : Die → List Die) (ds : List Die) (chain : List Nat) (out : List CDie)
    (hc : Cooked f range ds chain out) :
    Drain f range { stack := [ds], chain := chain } out { stack := [], chain := chain.tail } := by
  simpa using range_drain f range ds chain out hc [] [] _ (.nil (.empty rfl))

/-- nothing that is yielded is a resolvable import, and every chain extends the starting one -/
theorem cooked_no_import (f : Forest) (range : Die → List Die) (ds : List Die) (chain : List Nat) (out : List CDie)
    (hc : Cooked f range ds chain out) :
    ∀ c ∈ out, importTarget f c.die = none ∧ ∃ pre, c.chain = pre ++ chain := by
  induction hc with
  | nil => intro c hc; simp at hc
  | plain hn _ ih =>
    intro c hc
    simp only [List.mem_cons] at hc
    rcases hc with rfl | hc
    · exact ⟨hn, [], rfl⟩
    · exact ih c hc
  | @imp d root ds chain out1 out2 _ _ _ ih1 ih2 =>
    intro c hc
    simp only [List.mem_append] at hc
    rcases hc with hc | hc
    · obtain ⟨h1, pre, hp⟩ := ih1 c hc
      exact ⟨h1, pre ++ [d.off], by simp [hp]⟩
    · exact ih2 c hc

/-- without resolvable imports the cooked view is the range itself -/
theorem cooked_plain (f : Forest) (range : Die → List Die) (chain : List Nat) :
    ∀ ds, (∀ d ∈ ds, importTarget f d = none) → Cooked f range ds chain (ds.map fun d => ⟨d, chain⟩) := by
  intro ds
  induction ds with
  | nil => intro _; exact Cooked.nil
  | cons d ds ih =>
    intro h
    exact Cooked.plain (h d (by simp)) (ih (fun x hx => h x (by simp [hx])))

/-- `cookedBelow` (the `entry` walk of Model/Dwarf.lean) computes the cooked view, given fuel -/
theorem cookedBelow_of_cooked (f : Forest) (ds : List Die) (chain : List Nat) (out : List CDie)
    (hc : Cooked f (fun root => preorderList root.children) ds chain out) :
    ∃ n, ∀ fuel, n ≤ fuel → cookedBelow f fuel ds chain = out := by
  induction hc with
  | nil => exact ⟨0, fun fuel _ => by cases fuel <;> rfl⟩
  | @plain d ds chain out hn _ ih =>
    obtain ⟨n, hnn⟩ := ih
    exact exists_fuel n fun k hk => by simp [cookedBelow, hn, hnn k hk]
  | @imp d root ds chain out1 out2 hi _ _ ih1 ih2 =>
    obtain ⟨n1, h1⟩ := ih1
    obtain ⟨n2, h2⟩ := ih2
    exact exists_fuel (max n1 n2) fun k hk => by simp [cookedBelow, hi, h1 k (by omega), h2 k (by omega)]

/-- the `child` walk: one level of children, imports replaced by the cooked children of the imported
    root -/
theorem cookedChildren_of_cooked (f : Forest) (ds : List Die) (chain : List Nat) (out : List CDie)
    (hc : Cooked f (fun root => root.children) ds chain out) :
    ∃ n, ∀ fuel, n ≤ fuel → ∀ (p : Die), p.children = ds → cookedChildren f fuel ⟨p, chain⟩ = out := by
  induction hc with
  | nil => exact exists_fuel 0 fun k _ p hp => by simp [cookedChildren, hp]
  | @plain d ds chain out hn _ ih =>
    obtain ⟨n, hnn⟩ := ih
    refine exists_fuel n fun k hk p hp => ?_
    -- the hypothesis for the siblings `ds` speaks of a parent: one made up to have just them as
    -- children gives it as a fact about `ds.flatMap`, with the `match` that `cookedChildren` unfolds to
    have := hnn (k + 1) (by omega) (Die.mk 0 0 false [] ds) rfl
    simp only [cookedChildren, Die.children] at this
    simp only [cookedChildren, hp, List.flatMap_cons, hn]
    rw [this]; rfl
  | @imp d root ds chain out1 out2 hi _ _ ih1 ih2 =>
    obtain ⟨n1, h1⟩ := ih1
    obtain ⟨n2, h2⟩ := ih2
    refine exists_fuel (max n1 n2) fun k hk p hp => ?_
    have e1 := h1 k (by omega) root rfl
    have e2 := h2 (k + 1) (by omega) (Die.mk 0 0 false [] ds) rfl
    simp only [cookedChildren, Die.children] at e2
    simp only [cookedChildren, hp, List.flatMap_cons, hi]
    rw [e1, e2]

end ZwVerif.DieIt
