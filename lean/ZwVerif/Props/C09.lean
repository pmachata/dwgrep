import ZwVerif.Model.Sem
import ZwVerif.Lemmas.Int64
import ZwVerif.Lemmas.Ord3
/-!
# C09 — comparison is one consistent total order; equality respects constant domains

Constants are ordered by the key (class, value): the class of a constant is one
shared class for all arithmetic domains and otherwise the (most enclosing) domain
itself; distinct classes are ordered by the address of their domain objects — an
arbitrary *injective* rank, over which every theorem quantifies.  Strings compare
bytewise, sequences by length, then types, then element-wise: those, and the order of all
values as a whole, are in `C09Order`.
-/
namespace ZwVerif.C09
open ZwVerif

/-- the key `constant::operator<` orders by -/
def key (cfg : Cfg) (v : ZInt) (d : Dom) : Nat × Int := (cfg.domRank (d.cls v), v.den)

def keyLt (a b : Nat × Int) : Prop := a.1 < b.1 ∨ (a.1 = b.1 ∧ a.2 < b.2)

/-- the rank of domain objects is injective (distinct objects, distinct addresses) -/
def RankInj (cfg : Cfg) : Prop := ∀ a b : Dom, cfg.domRank a = cfg.domRank b → a = b

theorem cstLt_iff_key (cfg : Cfg) (hr : RankInj cfg) (v1 v2 : ZInt) (d1 d2 : Dom)
    (h1 : v1.WF) (h2 : v2.WF) :
    cstLt cfg v1 d1 v2 d2 = true ↔ keyLt (key cfg v1 d1) (key cfg v2 d2) := by
  unfold cstLt keyLt key
  by_cases hc : d1.cls v1 = d2.cls v2
  · simp [hc, ZInt.lt_iff v1 v2 h1 h2]
  · have hne : cfg.domRank (d1.cls v1) ≠ cfg.domRank (d2.cls v2) := fun h => hc (hr _ _ h)
    simp [hc]; omega

theorem keyLt_irrefl (a : Nat × Int) : ¬ keyLt a a := by unfold keyLt; omega

theorem keyLt_trans {a b c : Nat × Int} : keyLt a b → keyLt b c → keyLt a c := by unfold keyLt; omega

theorem keyLt_total {a b : Nat × Int} : ¬ keyLt a b ∧ ¬ keyLt b a ↔ a = b := by
  rw [Prod.ext_iff]; unfold keyLt; omega

theorem cstCmp_lt_iff (cfg : Cfg) (v1 v2 : ZInt) (d1 d2 : Dom) :
    cstCmp cfg v1 d1 v2 d2 = .lt ↔ cstLt cfg v1 d1 v2 d2 = true := by
  unfold cstCmp
  cases cstLt cfg v1 d1 v2 d2 <;> cases cstLt cfg v2 d2 v1 d1 <;> simp

theorem cstCmp_eq_iff (cfg : Cfg) (v1 v2 : ZInt) (d1 d2 : Dom) :
    cstCmp cfg v1 d1 v2 d2 = .eq ↔ cstLt cfg v1 d1 v2 d2 = false ∧ cstLt cfg v2 d2 v1 d1 = false := by
  unfold cstCmp
  cases cstLt cfg v1 d1 v2 d2 <;> cases cstLt cfg v2 d2 v1 d1 <;> simp

theorem cst_irrefl (cfg : Cfg) (hr : RankInj cfg) (v : ZInt) (d : Dom) (h : v.WF) :
    cstLt cfg v d v d = false :=
  Bool.eq_false_iff.2 fun e => keyLt_irrefl _ ((cstLt_iff_key cfg hr v v d d h h).1 e)

theorem cst_lt_trans (cfg : Cfg) (hr : RankInj cfg) (v1 v2 v3 : ZInt) (d1 d2 d3 : Dom)
    (h1 : v1.WF) (h2 : v2.WF) (h3 : v3.WF)
    (a : cstLt cfg v1 d1 v2 d2 = true) (b : cstLt cfg v2 d2 v3 d3 = true) :
    cstLt cfg v1 d1 v3 d3 = true :=
  (cstLt_iff_key cfg hr _ _ _ _ h1 h3).2 <|
    keyLt_trans ((cstLt_iff_key cfg hr _ _ _ _ h1 h2).1 a) ((cstLt_iff_key cfg hr _ _ _ _ h2 h3).1 b)

/-- exactly one of `<`, `==`, `>` holds -/
theorem cst_trichotomy (cfg : Cfg) (hr : RankInj cfg) (v1 v2 : ZInt) (d1 d2 : Dom) (h1 : v1.WF) (h2 : v2.WF) :
    (cstCmp cfg v1 d1 v2 d2 = .lt ∧ cstLt cfg v1 d1 v2 d2 = true ∧ cstLt cfg v2 d2 v1 d1 = false) ∨
    (cstCmp cfg v1 d1 v2 d2 = .gt ∧ cstLt cfg v1 d1 v2 d2 = false ∧ cstLt cfg v2 d2 v1 d1 = true) ∨
    (cstCmp cfg v1 d1 v2 d2 = .eq ∧ cstLt cfg v1 d1 v2 d2 = false ∧ cstLt cfg v2 d2 v1 d1 = false) := by
  have a := cstLt_iff_key cfg hr v1 v2 d1 d2 h1 h2
  have b := cstLt_iff_key cfg hr v2 v1 d2 d1 h2 h1
  unfold cstCmp
  cases ha : cstLt cfg v1 d1 v2 d2 <;> cases hb : cstLt cfg v2 d2 v1 d1 <;> simp
  -- both tests true: `<` would be reflexive
  exact keyLt_irrefl _ (keyLt_trans (a.1 ha) (b.1 hb))

theorem cstCmp_swap (cfg : Cfg) (hr : RankInj cfg) (v1 v2 : ZInt) (d1 d2 : Dom) (h1 : v1.WF) (h2 : v2.WF) :
    cstCmp cfg v2 d2 v1 d1 = (cstCmp cfg v1 d1 v2 d2).swap := by
  rcases cst_trichotomy cfg hr v1 v2 d1 d2 h1 h2 with ⟨h, a, b⟩ | ⟨h, a, b⟩ | ⟨h, a, b⟩ <;>
    rw [h] <;> simp [cstCmp, a, b]

theorem cst_converse (cfg : Cfg) (hr : RankInj cfg) (v1 v2 : ZInt) (d1 d2 : Dom) (h1 : v1.WF) (h2 : v2.WF) :
    (cstCmp cfg v1 d1 v2 d2 = .lt ↔ cstCmp cfg v2 d2 v1 d1 = .gt) := by
  rw [cstCmp_swap cfg hr v1 v2 d1 d2 h1 h2]
  cases cstCmp cfg v1 d1 v2 d2 <;> simp

/-- equality is an equivalence: it is equality of keys -/
theorem cst_eq_iff_key (cfg : Cfg) (hr : RankInj cfg) (v1 v2 : ZInt) (d1 d2 : Dom) (h1 : v1.WF) (h2 : v2.WF) :
    cstCmp cfg v1 d1 v2 d2 = .eq ↔ key cfg v1 d1 = key cfg v2 d2 := by
  rw [cstCmp_eq_iff, Bool.eq_false_iff, Bool.eq_false_iff, Ne, Ne, cstLt_iff_key cfg hr _ _ _ _ h1 h2,
    cstLt_iff_key cfg hr _ _ _ _ h2 h1, keyLt_total]

/-- integers in arithmetic domains (dec, hex, oct, bin, positions, addresses) compare by value -/
theorem arith_by_value (cfg : Cfg) (v1 v2 : ZInt) (d1 d2 : Dom) (h1 : v1.WF) (h2 : v2.WF)
    (a1 : d1.safeArith = true) (a2 : d2.safeArith = true) :
    cstLt cfg v1 d1 v2 d2 = true ↔ v1.den < v2.den := by
  unfold cstLt
  simp [Dom.cls, a1, a2, ZInt.lt_iff v1 v2 h1 h2]

/-- named constants of unrelated domains are never equal, even with equal numbers -/
theorem unrelated_never_equal (cfg : Cfg) (hr : RankInj cfg) (v1 v2 : ZInt) (d1 d2 : Dom)
    (h : d1.cls v1 ≠ d2.cls v2) : cstCmp cfg v1 d1 v2 d2 ≠ .eq := by
  have hne : cfg.domRank (d1.cls v1) ≠ cfg.domRank (d2.cls v2) := fun x => h (hr _ _ x)
  simp only [Ne, cstCmp_eq_iff, cstLt, h, Ne.symm h, if_false, decide_eq_false_iff_not]
  omega

/-- the class of an ELF symbol code: below `STT_LOOS` the machine does not count -/
theorem cls_elfsym (k : Bool) (m : Nat) (v : ZInt) :
    (Dom.elfsym k m).cls v = .elfsym k (if ZInt.lt v ⟨10, true⟩ then 0 else m) := by
  cases h : ZInt.lt v ⟨10, true⟩ <;> simp [Dom.cls, Dom.safeArith, Dom.mostEnclosing, h]

/-- generic ELF symbol codes of different machines are the same constant -/
theorem elfsym_common_equal (cfg : Cfg) (hr : RankInj cfg) (k : Bool) (m1 m2 : Nat) (v : ZInt) (h : v.WF)
    (hv : ZInt.lt v ⟨10, true⟩ = true) :
    cstCmp cfg v (.elfsym k m1) v (.elfsym k m2) = .eq := by
  simp [cst_eq_iff_key cfg hr _ _ _ _ h h, key, cls_elfsym, hv]

/-- machine-specific ELF symbol codes of different machines never are -/
theorem elfsym_specific_differ (cfg : Cfg) (hr : RankInj cfg) (k : Bool) (m1 m2 : Nat) (v1 v2 : ZInt)
    (hm : m1 ≠ m2) (h1 : ZInt.lt v1 ⟨10, true⟩ = false) (h2 : ZInt.lt v2 ⟨10, true⟩ = false) :
    cstCmp cfg v1 (.elfsym k m1) v2 (.elfsym k m2) ≠ .eq := by
  apply unrelated_never_equal cfg hr
  simp [cls_elfsym, h1, h2, hm]

/-- a constant always equals its own copy (for every value: `refl` in `C09Order`) -/
theorem cst_copy_equal (cfg : Cfg) (hr : RankInj cfg) (v : ZInt) (d : Dom) (h : v.WF) :
    cstCmp cfg v d v d = .eq :=
  (cst_eq_iff_key cfg hr _ _ _ _ h h).2 rfl

/-- the aliases are the same predicate by construction: `!lt` ≡ `?ge`, `!eq` ≡ `?ne`,
    `!gt` ≡ `?le`, and the infix forms are the words -/
theorem alias_table (ctx : Ctx) :
    (match lookupWord ctx "!lt", lookupWord ctx "?ge", lookupWord ctx ">=" with
      | .simple a, .simple b, .simple c => ∀ f, a f = b f ∧ b f = c f | _, _, _ => False) ∧
    (match lookupWord ctx "!eq", lookupWord ctx "?ne", lookupWord ctx "!=" with
      | .simple a, .simple b, .simple c => ∀ f, a f = b f ∧ b f = c f | _, _, _ => False) ∧
    (match lookupWord ctx "!gt", lookupWord ctx "?le", lookupWord ctx "<=" with
      | .simple a, .simple b, .simple c => ∀ f, a f = b f ∧ b f = c f | _, _, _ => False) ∧
    (match lookupWord ctx "?lt", lookupWord ctx "!ge", lookupWord ctx "<" with
      | .simple a, .simple b, .simple c => ∀ f, a f = b f ∧ b f = c f | _, _, _ => False) ∧
    (match lookupWord ctx "?eq", lookupWord ctx "!ne", lookupWord ctx "==" with
      | .simple a, .simple b, .simple c => ∀ f, a f = b f ∧ b f = c f | _, _, _ => False) ∧
    (match lookupWord ctx "?gt", lookupWord ctx "!le", lookupWord ctx ">" with
      | .simple a, .simple b, .simple c => ∀ f, a f = b f ∧ b f = c f | _, _, _ => False) :=
  ⟨fun _ => ⟨rfl, rfl⟩, fun _ => ⟨rfl, rfl⟩, fun _ => ⟨rfl, rfl⟩, fun _ => ⟨rfl, rfl⟩, fun _ => ⟨rfl, rfl⟩,
    fun _ => ⟨rfl, rfl⟩⟩

end ZwVerif.C09
