import ZwVerif.Generated.StaticSyms
-- `allowed` is given a symbol's object file and section too, and decides by the name alone
set_option linter.unusedVariables false
/-!
# C12 — a compiled query is a pure function of its input stack

In the model an execution is `runQuery ctx fuel t input`: a function.  What has to
be shown for the code is that nothing *outside* the per-result state buffer
carries state from one execution (or compilation) to another.  Two parts:

* a history model: result sets are lists of pending results; executing, pulling
  and destroying them in any interleaving gives, for each execution, exactly the
  prefix of the fresh run — by induction over the history;
* the static-storage audit: the list of symbols in writable data sections of the
  freshly built objects (Generated/StaticSyms.lean, from `nm`) must be covered by
  the allow-list below, every entry of which says why it cannot carry state
  between executions.  A new writable `static` whose name none of the patterns covers fails this theorem.
-/
namespace ZwVerif.C12
open ZwVerif

inductive HOp where
  | exec (input : Nat)        -- `zw_query_execute` on input #k; the result set becomes the newest live one
  | pull (slot : Nat)         -- `zw_result_next` on live result #slot
  | destroy (slot : Nat)      -- `zw_result_destroy`

structure Live where
  input : Nat
  pending : List String
  pulled : List String

/-- the model of the API: `fresh k` is the result sequence of a fresh parse-and-run on input k -/
def stepH (fresh : Nat → List String) (ls : List Live) : HOp → List Live × Option (Nat × Option String)
  | .exec k => (ls ++ [{ input := k, pending := fresh k, pulled := [] }], none)
  | .pull i =>
    match ls[i]? with
    | none => (ls, none)
    | some l =>
      match l.pending with
      | [] => (ls, some (l.input, none))
      | r :: rest => (ls.set i { l with pending := rest, pulled := l.pulled ++ [r] }, some (l.input, some r))
  | .destroy i => (ls.eraseIdx i, none)

def runH (fresh : Nat → List String) : List Live → List HOp → List Live
  | ls, [] => ls
  | ls, o :: os => runH fresh (stepH fresh ls o).1 os

def LiveOk (fresh : Nat → List String) (l : Live) : Prop := l.pulled ++ l.pending = fresh l.input

theorem step_preserves (fresh : Nat → List String) (ls : List Live) (o : HOp)
    (h : ∀ l ∈ ls, LiveOk fresh l) : ∀ l ∈ (stepH fresh ls o).1, LiveOk fresh l := by
  cases o with
  | exec k =>
    intro l hl
    simp [stepH] at hl
    rcases hl with hl | rfl
    · exact h l hl
    · simp [LiveOk]
  | pull i =>
    simp only [stepH]
    cases hi : ls[i]? with
    | none => simpa using h
    | some l0 =>
      cases hp : l0.pending with
      | nil => simpa [hp] using h
      | cons r rest =>
        simp only [hp]
        intro l hl
        rcases List.mem_or_eq_of_mem_set hl with hl | rfl
        · exact h l hl
        · simpa [LiveOk, hp] using h l0 (List.mem_of_getElem? hi)
  | destroy i => exact fun l hl => h l (List.mem_of_mem_eraseIdx hl)

/-- **executions never influence one another**: after any history, every live result set has
    yielded exactly a prefix of the fresh run on its own input, whatever was executed, pulled or
    abandoned in between. -/
theorem exec_independent (fresh : Nat → List String) (ops : List HOp) :
    ∀ l ∈ runH fresh [] ops, ∃ rest, l.pulled ++ rest = fresh l.input := by
  suffices H : ∀ ls, (∀ l ∈ ls, LiveOk fresh l) → ∀ l ∈ runH fresh ls ops, LiveOk fresh l by
    intro l hl
    exact ⟨l.pending, H [] (by simp) l hl⟩
  induction ops with
  | nil => intro ls h; simpa [runH] using h
  | cons o os ih => intro ls h; exact ih _ (step_preserves fresh ls o h)

theorem pull_is_next_of_fresh (fresh : Nat → List String) (ls : List Live) (i : Nat) (l : Live) (r : String)
    (h : ∀ l ∈ ls, LiveOk fresh l) (hi : ls[i]? = some l)
    (hr : (stepH fresh ls (.pull i)).2 = some (l.input, some r)) :
    (fresh l.input)[l.pulled.length]? = some r := by
  have hl : l.pulled ++ l.pending = fresh l.input := h l (List.mem_of_getElem? hi)
  simp only [stepH, hi] at hr
  cases hp : l.pending with
  | nil => simp [hp] at hr
  | cons r' rest =>
    simp [hp] at hr
    subst hr
    rw [← hl, hp]
    simp

def ends (s p : String) : Bool := p.toList.isSuffixOf s.toList
def starts (s p : String) : Bool := p.toList.isPrefixOf s.toList
def same (s p : String) : Bool := s.toList == p.toList

/-- why a writable static object cannot carry state from one execution to another -/
def allowed (obj sec sym : String) : Bool :=
  -- constant-domain objects: stateless singletons (virtual functions only) and references to them
  ends sym "_constant_dom" || ends sym "_constant_dom_obj" || ends sym "_number_dom"
  || ends sym "_number_dom_obj" || same sym "slot_type_dom" || same sym "slot_type_dom_obj"
  || (starts sym "dw_" && (ends sym "::dom" || ends sym "_dom_obj"))
  || starts sym "elfsym_stt_dom(int)::dom" || starts sym "elfsym_stb_dom(int)::dom"
  || same sym "elfsym_stv_dom()::dom"
  || same sym "op_pos::next(scon&) const::pos_dom_obj"
  -- value-type registry: written during static initialisation only
  || ends sym "::vtype" || same sym "value_type::alloc(char const*, char const*)::last"
  || same sym "(anonymous namespace)::get_vtype_names()::names"
  || same sym "(anonymous namespace)::get_vtype_docstrings()::docstrings"
  -- initialise-once vocabularies
  || same sym "zw_vocabulary_core::{lambda()#1}::operator()() const::v"
  || same sym "zw_vocabulary_dwarf::{lambda()#1}::operator()() const::v"
  -- bison's token-name table (read only in practice)
  || same sym "yytname"
  -- scratch output buffer, fully rewritten before every use
  || starts sym "string_or_unknown("
  -- libdwfl callback table: constant configuration, never written after initialisation
  || (starts sym "(anonymous namespace)::open_dwfl(" && ends sym "::callbacks")

/- `String.toList` decodes UTF-8 in a loop that the kernel runs at milliseconds a character.  A literal
   IS `String.ofList` of its characters, so `String.toList_ofList` hands them over without decoding;
   `-index`, because simp's index files a literal under a key of its own and only the unifier sees
   through it.  What is left to evaluate is the suffix / prefix / equality tests on lists of characters. -/
theorem static_state_audit :
    Generated.staticSyms.all (fun r => allowed r.1 r.2.1 r.2.2) = true := by
  simp -index only [Generated.staticSyms, List.all_cons, List.all_nil, allowed, ends, starts, same,
    String.toList_ofList]
  decide +kernel

/-- the audit is not vacuous: the table is not empty and the defect it once caught (F8) would fail -/
example : Generated.staticSyms.length > 20 := by decide +kernel
example : allowed "parser.o" "b" "(anonymous namespace)::append_drop_below(std::unique_ptr<tree>, unsigned int)::bi" = false := by
  simp -index only [allowed, ends, starts, same, String.toList_ofList]
  decide +kernel

end ZwVerif.C12
