import ZwVerif.Lemmas.Drain
/-!
# C04 / C01 — the operators that run a sub-expression per incoming stack compute the per-input rule

For every upstream and every behaviour of the sub-expressions (`f`, `c`, `t`, `e` : what a chain yields
for one stack, any finite list), pulling the operator until exhaustion yields exactly

* `op_capture`:  one result per input — the input with the list of what the body yields for it;
* `op_subx`:     for each input, one result per result of the body — built from THAT input;
* `op_ifelse`:   for each input, what `then` yields for it if the condition yields anything for it, else
                  what `else` yields for it;
* `op_assert` with `pred_subx_any`: the inputs the condition yields anything for, in order, each once;

and nothing else (`next` is a function, for `op_capture` a deterministic relation; draining is
deterministic).  No result of one input depends on what an earlier input left behind: the chain's state
is fresh whenever it is fed.
-/
namespace ZwVerif.SubOps
variable {α β γ : Type}

/-- what a chain still yields: what is pending, then what it yields for the stack at its origin -/
def Body.rest (f : α → List β) (b : Body α β) : List β :=
  b.pend ++ (match b.org with | some s => f s | none => [])

theorem body_drain_none (f : α → List β) (p : List β) : Drain (Body.next f) (⟨none, p⟩ : Body α β) p ⟨none, []⟩ := by
  induction p with
  | nil => exact .step_none rfl
  | cons x xs ih => exact .step_some rfl ih

theorem body_drain (f : α → List β) (b : Body α β) : Drain (Body.next f) b (b.rest f) Body.fresh := by
  obtain ⟨org, pend⟩ := b
  induction pend with
  | cons x xs ih => exact .step_some rfl ih
  | nil =>
    cases org with
    | none => exact .step_none rfl
    | some s =>
      -- a stack at the origin is as good as its results pending
      have e : Body.next f ⟨some s, []⟩ = Body.next f ⟨none, f s⟩ := by simp only [Body.next]; cases f s <;> rfl
      exact drain_congr e (body_drain_none f (f s))

theorem body_drain_fed (f : α → List β) (s : α) : Drain (Body.next f) ((Body.fresh : Body α β).setNext s) (f s) Body.fresh :=
  body_drain f _

/-- `pred_subx_any`, and the condition of `op_ifelse`: does the chain yield anything for `s`? -/
theorem subxAny_iff (c : α → List β) (s : α) : subxAny c s = !(c s).isEmpty := by
  cases h : c s <;> simp [subxAny, Body.next, Body.setNext, Body.fresh, h]

def capSpec (f : α → List β) (mk : α → List β → γ) (ups : List α) : List γ := ups.map fun s => mk s (f s)

theorem capNext_det (f : α → List β) (mk : α → List β → γ) (st : CapSt α β) (r1 : Option γ) (s1 : CapSt α β)
    (r2 : Option γ) (s2 : CapSt α β) (h1 : CapNext f mk st r1 s1) (h2 : CapNext f mk st r2 s2) : r1 = r2 ∧ s1 = s2 := by
  cases h1 with
  | input hu hd =>
    cases h2 with
    | input hu2 hd2 =>
      cases hu.symm.trans hu2
      obtain ⟨rfl, _⟩ := drain_det _ _ _ _ hd _ _ hd2
      exact ⟨rfl, rfl⟩
    | done hu2 => cases hu.symm.trans hu2
  | done hu =>
    cases h2 with
    | input hu2 _ => cases hu.symm.trans hu2
    | done _ => exact ⟨rfl, rfl⟩

/-- **op_capture**: one result per input, holding exactly what the body yields for THAT input -/
theorem capture_refines (f : α → List β) (mk : α → List β → γ) (ups : List α) :
    DrainR (CapNext f mk) ⟨ups, Body.fresh⟩ (capSpec f mk ups) ⟨[], Body.fresh⟩ := by
  induction ups with
  | nil => exact .nil (.done rfl)
  | cons s rest ih => exact .cons (.input (st := ⟨s :: rest, Body.fresh⟩) rfl (body_drain_fed f s)) ih

theorem capture_only_behaviour (f : α → List β) (mk : α → List β → γ) (ups : List α) (out : List γ) (st' : CapSt α β)
    (h : DrainR (CapNext f mk) ⟨ups, Body.fresh⟩ out st') : out = capSpec f mk ups :=
  (drainR_det (capNext_det f mk) h (capture_refines f mk ups)).1

def subxSpec (f : α → List β) (comb : α → β → γ) (ups : List α) : List γ := ups.flatMap fun s => (f s).map (comb s)

theorem subxStep_feed (f : α → List β) (comb : α → β → γ) (s : α) (rest : List α) (b : Body α β) :
    subxStep f comb (s :: rest, none, b) = subxStep f comb (rest, some s, b.setNext s) := by
  simp only [subxStep]; rw [subxNext]

theorem subxStep_run (f : α → List β) (comb : α → β → γ) (up : List α) (s : α) (b : Body α β) :
    subxStep f comb (up, some s, b) = match Body.next f b with
      | (some y, b') => (some (comb s y), (up, some s, b'))
      | (none, b') => subxStep f comb (up, none, b') := by
  simp only [subxStep]; rw [subxNext]; rfl

/-- **op_subx**: for each input, one result per result of the body, built from THAT input -/
theorem subx_refines (f : α → List β) (comb : α → β → γ) (ups : List α) :
    Drain (subxStep f comb) (ups, none, Body.fresh) (subxSpec f comb ups) ([], none, Body.fresh) := by
  induction ups with
  | nil => exact .step_none (by simp only [subxStep]; rw [subxNext])
  | cons s rest ih =>
    refine drain_congr (subxStep_feed f comb s rest _) ?_
    exact Drain.nest (fun b => (rest, some s, b)) (fun b => (rest, none, b)) (comb s)
      (fun b y b' e => by rw [subxStep_run, e]) (fun b b' e => by rw [subxStep_run, e]) (body_drain_fed f s) ih

theorem subx_only_behaviour (f : α → List β) (comb : α → β → γ) (ups : List α) (out : List γ) (st' : SubxSt α β)
    (h : Drain (subxStep f comb) (ups, none, Body.fresh) out st') : out = subxSpec f comb ups :=
  (drain_det _ _ _ _ h _ _ (subx_refines f comb ups)).1

def ifSpec (c t e : α → List β) (ups : List α) : List β :=
  ups.flatMap fun s => if (c s).isEmpty then e s else t s

theorem ifStep_feed (c t e : α → List β) (s : α) (rest : List α) :
    ifStep c t e (s :: rest, none) = ifStep c t e (rest, some (subxAny c s, (Body.fresh : Body α β).setNext s)) := by
  simp only [ifStep]; rw [ifNext]; rfl

theorem ifStep_run (c t e : α → List β) (up : List α) (w : Bool) (b : Body α β) :
    ifStep c t e (up, some (w, b)) = match Body.next (if w then t else e) b with
      | (some y, b') => (some y, (up, some (w, b')))
      | (none, _) => ifStep c t e (up, none) := by
  simp only [ifStep]; rw [ifNext]; rfl

/-- **op_ifelse**: each input goes to exactly one branch, chosen by whether the condition yields anything
    for THAT input; what the condition would yield beyond its first result is never seen -/
theorem ifelse_refines (c t e : α → List β) (ups : List α) :
    Drain (ifStep c t e) (ups, none) (ifSpec c t e ups) ([], none) := by
  induction ups with
  | nil => exact .step_none (by simp only [ifStep]; rw [ifNext])
  | cons s rest ih =>
    refine drain_congr (ifStep_feed c t e s rest) ?_
    -- `.map id`: the branch's results are passed on as they are, and `Drain.nest` speaks of `ys.map g`
    have hs : ifSpec c t e (s :: rest) = ((if subxAny c s then t else e) s).map id ++ ifSpec c t e rest := by
      rw [List.map_id, ifSpec, List.flatMap_cons, subxAny_iff]; cases (c s).isEmpty <;> rfl
    rw [hs]
    exact Drain.nest (fun b => (rest, some (subxAny c s, b))) (fun _ => (rest, none)) id
      (fun b y b' e' => by rw [ifStep_run, e']; rfl) (fun b b' e' => by rw [ifStep_run, e']) (body_drain_fed _ s) ih

theorem ifelse_only_behaviour (c t e : α → List β) (ups : List α) (out : List β) (st' : IfSt α β)
    (h : Drain (ifStep c t e) (ups, none) out st') : out = ifSpec c t e ups :=
  (drain_det _ _ _ _ h _ _ (ifelse_refines c t e ups)).1

/-- **op_assert**: the inputs the predicate holds on, in order, each once, unchanged -/
theorem assert_refines (p : α → Bool) (ups : List α) : Drain (assertNext p) ups (ups.filter p) [] := by
  induction ups with
  | nil => exact .step_none rfl
  | cons s rest ih =>
    by_cases h : p s
    · rw [List.filter_cons_of_pos h]; exact .step_some (if_pos h) ih
    · rw [List.filter_cons_of_neg h]; exact drain_congr (if_neg h) ih

theorem assert_only_behaviour (p : α → Bool) (ups out : List α) (st' : List α)
    (h : Drain (assertNext p) ups out st') : out = ups.filter p :=
  (drain_det _ _ _ _ h _ _ (assert_refines p ups)).1

/-- `?(E)`: the inputs `E` yields anything for -/
theorem assert_subx_any (c : α → List β) (ups : List α) :
    Drain (assertNext (subxAny c)) ups (ups.filter fun s => !(c s).isEmpty) [] := by
  rw [← funext (subxAny_iff c)]; exact assert_refines _ ups

/-! ### non-vacuity: concrete runs -/

example : subxSpec (fun n : Nat => List.range n) (fun a b => (a, b)) [2, 0, 1] = [(2, 0), (2, 1), (1, 0)] := by decide
example : ifSpec (fun n : Nat => List.range n) (fun n => [n, n]) (fun _ => [7]) [2, 0] = [2, 2, 7] := by decide
example : capSpec (fun n : Nat => List.range n) (fun a vs => (a, vs)) [2, 0] = [(2, [0, 1]), (0, [])] := by decide

end ZwVerif.SubOps
