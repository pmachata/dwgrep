import ZwVerif.Model.Lifecycle
-- `reserve_disjoint` is stated with a hypothesis (`h1`) that nothing uses
set_option linter.unusedVariables false
/-!
# C13 — no broken state lifecycle (the part of the property a model can carry)

Layout: successive reservations are aligned, lie above everything reserved before
and so never overlap; a union is as large as its largest member.  Protocol: the
construct / use / destroy discipline checked at run time by the `DWGREP_VERIF`
hook in scon.cc is stated as a state machine; a guarded use is accepted from any
state in which the slot is free and leaves the state as it was.

Memory errors, undefined behaviour and leaks are runtime facts: the check (zwv/c13.py) runs
its corpus — programs of the query-level checks, none of which opens a file — on an ASan +
UBSan + LSan build with the hook compiled in; that is observation, not proof.
-/
namespace ZwVerif.C13
open ZwVerif.Lifecycle

theorem alignUp_ge (top a : Nat) (ha : 0 < a) : top ≤ alignUp top a := by
  have := Nat.lt_div_mul_add (a := top + (a - 1)) ha
  unfold alignUp
  omega

theorem alignUp_aligned (top a : Nat) : alignUp top a % a = 0 := by
  unfold alignUp; exact Nat.mul_mod_left _ _

/-- a reservation starts at or above everything reserved so far and is aligned -/
theorem reserve_above (sz size a : Nat) (ha : 0 < a) :
    sz ≤ (reserve sz size a).1 ∧ (reserve sz size a).1 % a = 0 ∧
    (reserve sz size a).2 = (reserve sz size a).1 + size :=
  ⟨alignUp_ge sz a ha, alignUp_aligned sz a, rfl⟩

/-- two successive reservations never overlap -/
theorem reserve_disjoint (sz s1 a1 s2 a2 : Nat) (h1 : 0 < a1) (h2 : 0 < a2) :
    let r1 := reserve sz s1 a1
    let r2 := reserve r1.2 s2 a2
    r1.1 + s1 ≤ r2.1 := by
  simp only [reserve]
  exact alignUp_ge _ a2 h2

/-- a union layout is at least as large as each member and the layout before -/
theorem addUnion_ge (sz : Nat) (subs : List Nat) : sz ≤ addUnion sz subs ∧ ∀ s ∈ subs, s ≤ addUnion sz subs := by
  unfold addUnion
  induction subs generalizing sz with
  | nil => simp
  | cons x xs ih =>
    rw [List.foldl_cons, List.forall_mem_cons]
    have := ih (max sz x)
    exact ⟨by omega, by omega, this.2⟩

/-- constructing a state that overlaps a live one is a breach (what the hook aborts on) -/
theorem con_overlap_rejected (live : List (Nat × Nat)) (loc size l s : Nat)
    (hm : (l, s) ∈ live) (h1 : l < loc + size) (h2 : loc < l + s) :
    step live (.con loc size) = none := by
  have : live.any (fun x => decide (x.1 < loc + size) && decide (loc < x.1 + x.2)) = true :=
    List.any_eq_true.mpr ⟨(l, s), hm, by simp [h1, h2]⟩
  simp [step, this]

/-- using or destroying a state that is not live is a breach -/
theorem use_dead_rejected (live : List (Nat × Nat)) (loc size : Nat) (h : (loc, size) ∉ live) :
    step live (.get loc size) = none ∧ step live (.des loc size) = none := by
  simp [step, h]

/-- a guarded use (construct, use n times, destroy) of a free slot is accepted and leaves the
    set of live states exactly as it was -/
theorem guarded_ok (live : List (Nat × Nat)) (loc size n : Nat)
    (hfree : live.any (fun s => decide (s.1 < loc + size) && decide (loc < s.1 + s.2)) = false) :
    run live (guarded loc size n) = some live := by
  unfold guarded
  -- the slot is free, so `con` is accepted and puts the state at the head of the live list ...
  simp only [List.cons_append, List.nil_append, run, step, hfree, Bool.false_eq_true, if_false,
    Option.bind]
  -- ... where every `get` finds it and `des` takes it off again
  induction n with
  | zero => simp [run, step]
  | succ k ih => simpa [List.replicate_succ, run, step] using ih

end ZwVerif.C13
