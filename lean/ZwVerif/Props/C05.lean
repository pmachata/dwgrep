import ZwVerif.Props.C02
import ZwVerif.Lemmas.Find
/-!
# C05 — navigation words agree on every DIE

Over the forest model: the parent table built by one walk of a unit (cache.cc)
answers `parent` correctly for every DIE — every child's recorded parent is the
DIE it is a child of, and the binary search finds exactly that record — provided
offsets increase in section order (they do: it is the order of the bytes).  Cooked
children carry the chain of imports they were reached through, and `parent` of a
cooked DIE keeps that chain (the F6 repair), so `root` is the end of the `parent`
chain.
-/
namespace ZwVerif.C05
open ZwVerif.Dwarf ZwVerif.C02

/-- offsets strictly increase along the section (a decidable well-formedness condition every
    real file satisfies: it is the byte order) -/
def OffsetsIncreasing (d : Die) : Prop := ((preorder d).map Die.off).Pairwise (· < ·)

inductive Below (r : Die) : Die → Prop
  | self : Below r r
  | child {p c : Die} : Below r p → c ∈ p.children → Below r c

theorem below_trans {r x d : Die} (h1 : Below r x) (h2 : Below x d) : Below r d := by
  induction h2 with
  | self => exact h1
  | child _ hc ih => exact ih.child hc

/-- the one induction over the tree: whatever else holds of every DIE a tree lists is shown by
    induction on `Below` -/
theorem mem_below (r d : Die) (h : d ∈ preorder r) : Below r d := by
  induction r using die_induction with
  | step r ih =>
    rcases mem_preorder.mp h with rfl | ⟨x, hx, h⟩
    · exact .self
    · exact below_trans (.child .self hx) (ih x hx h)

theorem mem_below_list (r : Die) (rs : List Die) (d : Die) (hr : ∀ c ∈ rs, Below r c) (h : d ∈ preorderList rs) : Below r d := by
  obtain ⟨x, hx, h⟩ := mem_preorderList.mp h
  exact below_trans (hr x hx) (mem_below x d h)

theorem preorder_sub_of_below {r d : Die} (h : Below r d) : preorder d ⊆ preorder r := by
  induction h with
  | self => exact fun _ h => h
  | child _ hc ih => exact fun x hx => ih (mem_preorder.mpr (.inr ⟨_, hc, hx⟩))

theorem below_mem (r d : Die) (h : Below r d) : d ∈ preorder r :=
  preorder_sub_of_below h (self_mem_preorder d)

theorem children_mem (r p c : Die) (hp : p ∈ preorder r) (hc : c ∈ p.children) : c ∈ preorder r :=
  below_mem r c ((mem_below r p hp).child hc)

theorem children_mem_list (rs : List Die) (p c : Die) (hp : p ∈ preorderList rs) (hc : c ∈ p.children) :
    c ∈ preorderList rs := by
  obtain ⟨x, hx, hp⟩ := mem_preorderList.mp hp
  exact mem_preorderList.mpr ⟨x, hx, children_mem x p c hp hc⟩

theorem root_entry (par : Option Nat) (d : Die) : (d.off, par) ∈ parentTable par d := by
  rw [parentTable_eq]; exact List.mem_cons_self

theorem parentTable_child_sub (par : Option Nat) {d c : Die} (hc : c ∈ d.children) :
    parentTable (some d.off) c ⊆ parentTable par d := by
  intro e he
  rw [parentTable_eq]
  exact List.mem_cons_of_mem _ (mem_parentTableList.mpr ⟨c, hc, he⟩)

theorem child_entry (par : Option Nat) (d c : Die) (hc : c ∈ d.children) :
    (c.off, some d.off) ∈ parentTable par d :=
  parentTable_child_sub par hc (root_entry _ c)

theorem parentTable_sub_of_below {r d : Die} (h : Below r d) (par : Option Nat) :
    ∃ par', parentTable par' d ⊆ parentTable par r := by
  induction h with
  | self => exact ⟨par, fun _ h => h⟩
  | child _ hc ih =>
    obtain ⟨par', ih⟩ := ih
    exact ⟨_, fun e he => ih (parentTable_child_sub par' hc he)⟩

theorem child_entry_deep (par : Option Nat) (r d c : Die) (hd : d ∈ preorder r) (hc : c ∈ d.children) :
    (c.off, some d.off) ∈ parentTable par r := by
  obtain ⟨par', h⟩ := parentTable_sub_of_below (mem_below r d hd) par
  exact h (child_entry par' d c hc)

theorem child_entry_deep_list (par : Option Nat) (rs : List Die) (d c : Die) (hd : d ∈ preorderList rs)
    (hc : c ∈ d.children) : (c.off, some d.off) ∈ parentTableList par rs := by
  obtain ⟨x, hx, hd⟩ := mem_preorderList.mp hd
  exact mem_parentTableList.mpr ⟨x, hx, child_entry_deep par x d c hd hc⟩

/-- binary search on keys that strictly increase finds the record of a key that is present -/
theorem lowerBound_finds (tab : List (Nat × Option Nat)) (k : Nat) (v : Option Nat)
    (hs : (tab.map (·.1)).Pairwise (· < ·)) (hm : (k, v) ∈ tab) :
    lowerBound tab k = some (k, v) :=
  find?_of_pairwise (List.pairwise_map.mp hs) hm (by simp) fun x hx => by simpa using hx

theorem findParent_of_entry (u : DUnit) (hinc : OffsetsIncreasing u.root) {k : Nat} {v : Option Nat}
    (hm : (k, v) ∈ parentTable none u.root) : findParent u k = some v := by
  rw [findParent, lowerBound_finds _ k v (by rw [parentTable_offsets]; exact hinc) hm]
  simp

/-- **every DIE yielded by `child` of D has D as `parent`** (raw view), for every DIE D of every
    unit: the parent table of the unit, searched the way cache.cc searches it, returns D for
    each child of D -/
theorem child_parent (u : DUnit) (d c : Die) (hinc : OffsetsIncreasing u.root)
    (hd : d ∈ preorder u.root) (hc : c ∈ d.children) :
    findParent u c.off = some (some d.off) :=
  findParent_of_entry u hinc (child_entry_deep none u.root d c hd hc)

/-- the hypotheses are satisfiable: a three-DIE unit -/
example : OffsetsIncreasing (.mk 11 0x11 true [] [.mk 20 0x2e true [] [.mk 30 0x34 false [] []]]) := by
  simp [OffsetsIncreasing, preorder, preorderList, Die.off]

theorem root_has_no_parent (u : DUnit) (hinc : OffsetsIncreasing u.root) :
    findParent u u.root.off = some none :=
  findParent_of_entry u hinc (root_entry none u.root)

inductive Climbs (u : DUnit) : Nat → Prop
  | root : Climbs u u.root.off
  | step {o p : Nat} : findParent u o = some (some p) → Climbs u p → Climbs u o

/-- **every DIE a unit lists reaches the unit's root by following `parent`, and the root has no
    parent: `root` is the end of the `parent` chain** (raw view, any tree shape) -/
theorem parent_chain_ends_at_root (u : DUnit) (hinc : OffsetsIncreasing u.root) (d : Die) (hd : d ∈ preorder u.root) :
    Climbs u d.off ∧ findParent u u.root.off = some none := by
  refine ⟨?_, root_has_no_parent u hinc⟩
  induction mem_below u.root d hd with
  | self => exact .root
  | child hp hc ih =>
    have hpm := below_mem u.root _ hp
    exact .step (child_parent u _ _ hinc hpm hc) (ih hpm)

/-- offsets strictly increase through the whole section (all units): the byte order -/
def ForestWF (f : Forest) : Prop := ((rawEntries f).map Die.off).Pairwise (· < ·)

theorem forestWF_iff (f : Forest) : ForestWF f ↔ (∀ u ∈ f, OffsetsIncreasing u.root) ∧
    f.Pairwise fun u v => ∀ a ∈ preorder u.root, ∀ b ∈ preorder v.root, a.off < b.off := by
  simp only [ForestWF, OffsetsIncreasing, rawEntries, List.pairwise_map, List.pairwise_flatMap]

theorem unit_increasing (f : Forest) (hwf : ForestWF f) (u : DUnit) (hu : u ∈ f) : OffsetsIncreasing u.root :=
  ((forestWF_iff f).mp hwf).1 u hu

theorem mem_rawEntries {f : Forest} {u : DUnit} (hu : u ∈ f) {d : Die} (hd : d ∈ preorder u.root) :
    d ∈ rawEntries f :=
  List.mem_flatMap.mpr ⟨u, hu, hd⟩

theorem findDie_mem (f : Forest) (hwf : ForestWF f) (d : Die) (hd : d ∈ rawEntries f) : findDie f d.off = some d :=
  find?_of_pairwise (List.pairwise_map.mp hwf) hd (beq_self_eq_true _) fun x hx => by simpa using Nat.ne_of_lt hx

theorem unitOf_mem (f : Forest) (hwf : ForestWF f) (u : DUnit) (hu : u ∈ f) (d : Die) (hd : d ∈ preorder u.root) :
    unitOf f d.off = some u :=
  find?_of_pairwise ((forestWF_iff f).mp hwf).2 hu (List.any_eq_true.mpr ⟨d, hd, beq_self_eq_true _⟩)
    fun x hx => List.any_eq_false.mpr fun a ha => by simpa using Nat.ne_of_lt (hx a ha d hd)

/-- `parent` in the raw view, through the caches and look-ups of the model: a child's parent is the
    DIE it is a child of, the root of a unit has none -/
theorem rawParent_child (f : Forest) (hwf : ForestWF f) (u : DUnit) (hu : u ∈ f) (p c : Die)
    (hp : p ∈ preorder u.root) (hc : c ∈ p.children) : rawParent f c = some p := by
  rw [rawParent, unitOf_mem f hwf u hu c (children_mem u.root p c hp hc)]
  simp only [child_parent u p c (unit_increasing f hwf u hu) hp hc]
  exact findDie_mem f hwf p (mem_rawEntries hu hp)

theorem rawParent_root (f : Forest) (hwf : ForestWF f) (u : DUnit) (hu : u ∈ f) : rawParent f u.root = none := by
  rw [rawParent, unitOf_mem f hwf u hu u.root (self_mem_preorder _)]
  simp only [root_has_no_parent u (unit_increasing f hwf u hu)]

theorem isUnitRoot_iff (f : Forest) (hwf : ForestWF f) (u : DUnit) (hu : u ∈ f) (d : Die) (hd : d ∈ preorder u.root) :
    isUnitRoot f d = true ↔ d = u.root := by
  rw [isUnitRoot, unitOf_mem f hwf u hu d hd]
  refine ⟨fun h => ?_, fun h => by simp [h]⟩
  -- the offset determines the DIE: `findDie` returns both
  have := findDie_mem f hwf d (mem_rawEntries hu hd)
  rw [← beq_iff_eq.mp h, findDie_mem f hwf _ (mem_rawEntries hu (self_mem_preorder _))] at this
  exact (Option.some.inj this).symm

theorem rawParent_root_child (f : Forest) (hwf : ForestWF f) (u : DUnit) (hu : u ∈ f) (k : Die)
    (hk : k ∈ u.root.children) : rawParent f k = some u.root :=
  rawParent_child f hwf u hu _ k (self_mem_preorder _) hk

theorem isUnitRoot_root (f : Forest) (hwf : ForestWF f) (u : DUnit) (hu : u ∈ f) : isUnitRoot f u.root = true :=
  (isUnitRoot_iff f hwf u hu _ (self_mem_preorder _)).mpr rfl

/-- cooked children keep the chain of imports they were reached through: it extends the
    parent's chain -/
theorem cookedChildren_chain (f : Forest) (fuel : Nat) (d : CDie) :
    ∀ c ∈ cookedChildren f fuel d, ∃ pre, c.chain = pre ++ d.chain :=
  fun c hc => (mem_cookedChildren f fuel d c hc).2

/-- `parent` of a cooked DIE that is not directly below a unit's root keeps the DIE's
    import chain: a later `parent` can still leave the partial unit through it (F6) -/
theorem cookedParent_keeps_chain (f : Forest) (fuel : Nat) (d p : Die) (chain : List Nat)
    (hp : rawParent f d = some p) (ht : isUnitRoot f p = false) :
    cookedParent f (fuel + 1) ⟨d, chain⟩ = some ⟨p, chain⟩ := by
  simp [cookedParent, hp, ht]

/-- at the root of an imported unit the walk continues from the importing DIE with the rest of the chain -/
theorem cookedParent_leaves_partial_unit (f : Forest) (fuel : Nat) (d p imp : Die) (i : Nat) (rest : List Nat)
    (hp : rawParent f d = some p) (ht : isUnitRoot f p = true)
    (hi : findDie f i = some imp) :
    cookedParent f (fuel + 1) ⟨d, i :: rest⟩ = cookedParent f fuel ⟨imp, rest⟩ := by
  simp [cookedParent, hp, ht, hi]

/-- `root` stops where `parent` does: a cooked DIE for which `cookedParent` has nothing (no parent,
    or no fuel left for the hops) is its own root -/
theorem cookedRoot_is_fixpoint (f : Forest) (fuel : Nat) (c : CDie)
    (h : cookedParent f (fuel + 1) c = none) : cookedRoot f (fuel + 1) c = c := by
  simp [cookedRoot, h]

/-- cooked `parent` as a relation (the paths of fetch_parent_die): no fuel -/
inductive CParent (f : Forest) : CDie → Option CDie → Prop
  | none {d : Die} {chain : List Nat} : rawParent f d = none → CParent f ⟨d, chain⟩ none
  | inner {d p : Die} {chain : List Nat} : rawParent f d = some p → isUnitRoot f p = false →
      CParent f ⟨d, chain⟩ (some ⟨p, chain⟩)
  | outer {d p : Die} : rawParent f d = some p → isUnitRoot f p = true → CParent f ⟨d, []⟩ (some ⟨p, []⟩)
  | hop {d p imp : Die} {i : Nat} {rest : List Nat} {r : Option CDie} : rawParent f d = some p → isUnitRoot f p = true →
      findDie f i = some imp → CParent f ⟨imp, rest⟩ r → CParent f ⟨d, i :: rest⟩ r
  | lost {d p : Die} {i : Nat} {rest : List Nat} : rawParent f d = some p → isUnitRoot f p = true →
      findDie f i = none → CParent f ⟨d, i :: rest⟩ none

/-- the function computes the relation with one unit of fuel to start and one for every link of
    the chain: each `hop` takes one link off and uses one -/
theorem cookedParent_add {f : Forest} {c : CDie} {r : Option CDie} (h : CParent f c r) (k : Nat) :
    cookedParent f (c.chain.length + k + 1) c = r := by
  induction h with
  | none hp => simp [cookedParent, hp]
  | inner hp hr => exact cookedParent_keeps_chain f _ _ _ _ hp hr
  | outer hp hr => simp [cookedParent, hp, hr]
  | lost hp hr hi => simp [cookedParent, hp, hr, hi]
  | hop hp hr hi _ ih =>
    rw [cookedParent_leaves_partial_unit f _ _ _ _ _ _ hp hr hi, List.length_cons, Nat.add_right_comm]
    exact ih

theorem cookedParent_of_rel (f : Forest) (c : CDie) (r : Option CDie) (h : CParent f c r) :
    ∀ fuel, c.chain.length < fuel → cookedParent f fuel c = r := by
  intro fuel hf
  obtain ⟨k, rfl⟩ := Nat.exists_eq_add_of_lt hf
  exact cookedParent_add h k

theorem cparent_det (f : Forest) (c : CDie) (r1 : Option CDie) (h1 : CParent f c r1) :
    ∀ r2, CParent f c r2 → r1 = r2 :=
  -- the function computes every derivation's result, so two derivations agree
  fun _ h2 => (cookedParent_add h1 0).symm.trans (cookedParent_add h2 0)

inductive CClimb (f : Forest) : CDie → CDie → Prop
  | stop {c : CDie} : CParent f c none → CClimb f c c
  | step {c c' e : CDie} : CParent f c (some c') → CClimb f c' e → CClimb f c e

/-- a cooked DIE value as the producers make them: a DIE of a unit of the file; if it was reached
    through imports, the innermost link is a DIE that has a parent (that it imports the DIE's unit
    is not asked for: the climb does not use it), and the DIE is not the root of its unit (the root
    of an imported unit is never yielded); `r` is the root of the unit the outermost link sits in -/
inductive Rooted (f : Forest) : CDie → Die → Prop
  | top {u : DUnit} {d : Die} : u ∈ f → d ∈ preorder u.root → Rooted f ⟨d, []⟩ u.root
  | imported {u : DUnit} {d p imp : Die} {rest : List Nat} {r : Die} {x : CDie} : u ∈ f → p ∈ preorder u.root → d ∈ p.children →
      findDie f imp.off = some imp → CParent f ⟨imp, rest⟩ (some x) → Rooted f ⟨imp, rest⟩ r →
      Rooted f ⟨d, imp.off :: rest⟩ r

/-- inside one unit `parent` leads from any DIE up to a child of the unit's root, carrying the chain
    along; how the climb goes on from there (`outer` or `hop`) is the caller's to say: `hend` -/
theorem climb_in_unit (f : Forest) (hwf : ForestWF f) (u : DUnit) (hu : u ∈ f) (chain : List Nat) (e : CDie) :
    ∀ d, Below u.root d → (∀ k, k ∈ u.root.children → CClimb f ⟨k, chain⟩ e) → d ≠ u.root → CClimb f ⟨d, chain⟩ e := by
  intro d hb hend
  induction hb with
  | self => exact fun hne => absurd rfl hne
  | @child p c hp hc ih =>
    intro _
    by_cases hpr : p = u.root
    · exact hend c (hpr ▸ hc)
    · have hpm := below_mem u.root p hp
      exact .step (.inner (rawParent_child f hwf u hu p c hpm hc)
        (Bool.eq_false_iff.mpr (mt (isUnitRoot_iff f hwf u hu p hpm).mp hpr))) (ih hpr)

/-- **`root` is the end of the `parent` chain, through any nesting of imports**: climbing from a
    cooked DIE value ends at the root of the unit its outermost import sits in, with no chain left -/
theorem cooked_climb_ends_at_root (f : Forest) (hwf : ForestWF f) (c : CDie) (r : Die) (h : Rooted f c r) :
    CClimb f c ⟨r, []⟩ := by
  -- in both cases `climb_in_unit` leads to a child `k` of the unit's root, and one step leads out
  induction h with
  | @top u d hu hd =>
    have hstop : CClimb f ⟨u.root, []⟩ ⟨u.root, []⟩ := .stop (.none (rawParent_root f hwf u hu))
    by_cases hd0 : d = u.root
    · exact hd0 ▸ hstop
    · exact climb_in_unit f hwf u hu [] _ d (mem_below _ d hd) (fun k hk =>
        .step (.outer (rawParent_root_child f hwf u hu k hk) (isUnitRoot_root f hwf u hu)) hstop) hd0
  | @imported u d p imp rest r x hu hp hc hfi hpx _ ih =>
    -- the importing DIE has a parent: its climb starts with a step
    cases ih with
    | stop hn => exact absurd (cparent_det f _ _ hn _ hpx) (by simp)
    | step hy hcl =>
      refine climb_in_unit f hwf u hu _ _ d (mem_below _ d (children_mem _ p d hp hc)) (fun k hk =>
        .step (.hop (rawParent_root_child f hwf u hu k hk) (isUnitRoot_root f hwf u hu) hfi hy) hcl) fun hdr => ?_
      -- `d` is not the root: it has a parent
      have := rawParent_child f hwf u hu p d hp hc
      rw [hdr, rawParent_root f hwf u hu] at this
      cases this

/-- the model's function `cookedRoot` computes that end, given enough fuel -/
theorem cookedRoot_of_climb (f : Forest) (c e : CDie) (h : CClimb f c e) :
    ∃ n, ∀ fuel, n ≤ fuel → cookedRoot f fuel c = e := by
  induction h with
  | @stop c hn =>
    exact exists_fuel c.chain.length fun k hk => by simp [cookedRoot, cookedParent_of_rel f c _ hn (k + 1) (by omega)]
  | @step c c' e hs _ ih =>
    obtain ⟨n, hn⟩ := ih
    exact exists_fuel (max c.chain.length n) fun k hk => by
      simpa [cookedRoot, cookedParent_of_rel f c _ hs (k + 1) (by omega)] using hn k (by omega)

/-- non-vacuity: a compile unit importing a partial unit; the DIE inside the partial unit, reached
    through the import, is `Rooted` at the compile unit's root, and the forest is well formed -/
example :
    let x : Die := .mk 110 0x34 false [] []
    let pu : DUnit := ⟨100, 4, .mk 105 0x3c true [] [x]⟩
    let imp : Die := .mk 20 0x3d false [{ name := 0x18, form := 0x10, ref := some 105 }] []
    let cu : DUnit := ⟨0, 4, .mk 11 0x11 true [] [imp]⟩
    let f : Forest := [cu, pu]
    ForestWF f ∧ Rooted f ⟨x, [20]⟩ cu.root ∧ cookedRoot f 10 ⟨x, [20]⟩ = ⟨cu.root, []⟩ := by
  intro x pu imp cu f
  refine ⟨by simp [ForestWF, rawEntries, preorder, preorderList, Die.off, f, cu, pu, imp, x], ?_, by rfl⟩
  exact Rooted.imported (u := pu) (p := pu.root) (imp := imp) (x := ⟨cu.root, []⟩)
    (by simp [f]) (by simp [pu, preorder]) (by simp [pu, Die.children]) (by rfl)
    (CParent.outer (by rfl) (by rfl)) (Rooted.top (u := cu) (by simp [f]) (by simp [cu, preorder, preorderList, imp]))

end ZwVerif.C05
