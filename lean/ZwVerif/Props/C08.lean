import ZwVerif.Lemmas.Int64Div
/-!
# C08 — integer arithmetic is exact over [-2^63, 2^64-1] or reports an error

Property theorems only; helper lemmas live in `ZwVerif/Lemmas/Int64*.lean`.
All statements are for *every* well-formed pair of representations (every
64-bit word with either signedness tag), i.e. all 2^130 operand pairs, including
both representations of each non-negative value below 2^63.

`Exact res x` (Lemmas/Int64.lean):  `res = .ok r` with `r` well formed and
`den r = x`, or `res = .error .overflow` and `x ∉ [-2^63, 2^64)`.  Since
`den` of a well-formed value is always in range (`den_inRange`) this is an
*iff*: the exact value is yielded exactly when it is representable.
-/
namespace ZwVerif.C08
open ZwVerif ZInt

/-- Reading of `Exact` as the two directions the property states. -/
theorem exact_iff {res : Except IntErr ZInt} {x : Int} (h : Exact res x) :
    (InRange x → ∃ r, res = .ok r ∧ r.WF ∧ r.den = x) ∧
    (¬ InRange x → res = .error .overflow) :=
  ⟨h.ok_of_inRange, h.overflow_of_not_inRange⟩

theorem add_exact (a b : ZInt) (ha : a.WF) (hb : b.WF) : Exact (add a b) (a.den + b.den) :=
  ZInt.add_exact a b ha hb

theorem sub_exact (a b : ZInt) (ha : a.WF) (hb : b.WF) : Exact (sub a b) (a.den - b.den) :=
  ZInt.sub_exact a b ha hb

theorem mul_exact (a b : ZInt) (ha : a.WF) (hb : b.WF) : Exact (mul a b) (a.den * b.den) :=
  ZInt.mul_exact a b ha hb

theorem neg_exact (a : ZInt) (ha : a.WF) : Exact (neg a) (- a.den) :=
  ZInt.neg_exact a ha

theorem div_floor (a b : ZInt) (ha : a.WF) (hb : b.WF) :
    if b.den = 0 then div a b = .error .div0 else Exact (div a b) (Int.fdiv a.den b.den) :=
  ZInt.div_floor a b ha hb

theorem mod_floor (a b : ZInt) (ha : a.WF) (hb : b.WF) :
    if b.den = 0 then mod a b = .error .div0 else Exact (mod a b) (Int.fmod a.den b.den) :=
  ZInt.mod_floor a b ha hb

/-- `mod` never reports overflow: the remainder lies between 0 and the divisor. -/
theorem mod_never_overflows (a b : ZInt) (ha : a.WF) (hb : b.WF) (h0 : b.den ≠ 0) :
    ∃ r, mod a b = .ok r ∧ r.WF ∧ r.den = Int.fmod a.den b.den := by
  have h := ZInt.mod_floor a b ha hb
  rw [DivSpec, if_neg h0] at h
  refine h.ok_of_inRange ?_
  have hbr := den_inRange hb
  unfold InRange at *
  rcases Int.lt_or_gt_of_ne h0 with hb0 | hb0
  · have := ((Int.fdiv_fmod_unique' (a := a.den) hb0).1 ⟨rfl, rfl⟩).2
    omega
  · have := ((Int.fdiv_fmod_unique (a := a.den) hb0).1 ⟨rfl, rfl⟩).2
    omega

theorem lt_iff (a b : ZInt) (ha : a.WF) (hb : b.WF) : lt a b = true ↔ a.den < b.den :=
  ZInt.lt_iff a b ha hb

theorem ge_iff (a b : ZInt) (ha : a.WF) (hb : b.WF) : ge a b = true ↔ a.den ≥ b.den :=
  (not_iff (lt_iff a b ha hb)).trans Int.not_lt

theorem le_iff (a b : ZInt) (ha : a.WF) (hb : b.WF) : le a b = true ↔ a.den ≤ b.den := by
  rw [le, Bool.or_eq_true, lt_iff a b ha hb, ← ge, ge_iff b a hb ha]
  omega

theorem gt_iff (a b : ZInt) (ha : a.WF) (hb : b.WF) : gt a b = true ↔ a.den > b.den :=
  (not_iff (le_iff a b ha hb)).trans Int.not_le

theorem eq_iff (a b : ZInt) (ha : a.WF) (hb : b.WF) : beq' a b = true ↔ a.den = b.den := by
  rw [beq', Bool.and_eq_true, ← ge, ← ge, ge_iff a b ha hb, ge_iff b a hb ha]
  omega

theorem ne_iff (a b : ZInt) (ha : a.WF) (hb : b.WF) : ne a b = true ↔ a.den ≠ b.den :=
  not_iff (eq_iff a b ha hb)

/-! Non-vacuity: the hypotheses are met by concrete non-trivial states, and the inputs on
    which int.cc failed before its repair (F3) come out exact in the model. -/
example : (⟨2^63, true⟩ : ZInt).WF ∧ (⟨2^64 - 1, false⟩ : ZInt).WF := by decide
-- INT64_MIN div UINT64_MAX = -1
example : div ⟨2^63, true⟩ ⟨2^64 - 1, false⟩ = .ok ⟨2^64 - 1, true⟩ := rfl
-- -1 mod UINT64_MAX = 2^64 - 2
example : mod ⟨2^64 - 1, true⟩ ⟨2^64 - 1, false⟩ = .ok ⟨2^64 - 2, false⟩ := rfl
-- -(signed 5) = -5
example : neg ⟨5, true⟩ = .ok ⟨2^64 - 5, true⟩ := rfl
-- UINT64_MAX + 1 overflows, INT64_MIN - 1 overflows
example : add ⟨2^64 - 1, false⟩ ⟨1, true⟩ = .error .overflow := rfl
example : sub ⟨2^63, true⟩ ⟨1, false⟩ = .error .overflow := rfl

end ZwVerif.C08
