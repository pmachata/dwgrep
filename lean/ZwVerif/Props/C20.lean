import ZwVerif.Model.Render
/-!
# C20 — printed values are faithful

* brief strings: the quoted rendering of `dump_charp` decodes back (by `undump` of Model/Render.lean, the escapes read
  the way the string lexer reads them; the lexer model itself is not involved) to the same bytes for EVERY byte
  string, hence different strings never print alike;
* integer rendering per radix domain is in Props/C20Int.lean; that the named constants of the
  build's `known-dwarf.h` / `known-elf.h` read back is tested on the implementation by the check
  (zwv/c20.py), not proved here.
-/
namespace ZwVerif.C20
open ZwVerif

/-- every byte, as a list: what a statement of the form `allBytes.all p = true` sweeps (`mem_allBytes`) -/
def allBytes : List UInt8 := (List.range 256).map Nat.toUInt8

theorem mem_allBytes (c : UInt8) : c ∈ allBytes := by
  unfold allBytes
  simp only [List.mem_map, List.mem_range]
  exact ⟨c.toNat, c.toNat_lt, by simp⟩

theorem hexVal_hexDigit : ∀ n < 16, hexVal (hexDigit n) = n := by decide

theorem hex_roundtrip (c : UInt8) :
    (hexVal (hexDigit (c.toNat / 16)) * 16 + hexVal (hexDigit (c.toNat % 16))).toUInt8 = c := by
  have hc := c.toNat_lt
  rw [hexVal_hexDigit _ (by omega), hexVal_hexDigit _ (by omega), Nat.div_add_mod']
  simp

theorem undump_hex (a b : UInt8) (rest : Bytes) :
    undump (92 :: 120 :: a :: b :: rest) = (hexVal a * 16 + hexVal b).toUInt8 :: undump rest := by
  rw [undump]

theorem undump_esc (c : UInt8) (rest : Bytes) (h : c ≠ 120) :
    undump (92 :: c :: rest) = (escChar c).getD c :: undump rest := by
  rw [undump]
  intro h1 h2 hr hc; exact absurd hc h

theorem undump_pct (rest : Bytes) : undump (37 :: 37 :: rest) = 37 :: undump rest := by
  rw [undump]

theorem undump_plain (c : UInt8) (rest : Bytes) (h1 : c ≠ 92) (h2 : c ≠ 37) :
    undump (c :: rest) = c :: undump rest := by
  rw [undump] <;> (intros; contradiction)

/-- Every escape has one of four forms, one for each clause of `undump`.  (`e ∈ dumpByte c` only bounds the
    quantifier, which makes the closed instances decidable.) -/
theorem dumpByte_shape (c : UInt8) :
    dumpByte c = [92, 120, hexDigit (c.toNat / 16), hexDigit (c.toNat % 16)] ∨
    (dumpByte c = [c] ∧ c ≠ 92 ∧ c ≠ 37) ∨
    (∃ e ∈ dumpByte c, dumpByte c = [92, e] ∧ e ≠ 120 ∧ (escChar e).getD e = c) ∨
    (c = 37 ∧ dumpByte c = [37, 37]) := by
  by_cases h : c ∈ [0, 34, 37, 92, 7, 8, 9, 10, 11, 12, 13]
  · -- the bytes with an escape of their own: closed instances
    simp only [List.mem_cons, List.not_mem_nil, or_false] at h
    rcases h with rfl | rfl | rfl | rfl | rfl | rfl | rfl | rfl | rfl | rfl | rfl <;> decide
  · simp only [List.mem_cons, List.not_mem_nil, or_false, not_or] at h
    simp only [dumpByte, h, if_false]
    split
    · exact .inr (.inl ⟨rfl, h.2.2.2.1, h.2.2.1⟩)    -- printable, and neither `\` nor `%`
    · exact .inl rfl

theorem dumpByte_decodes (c : UInt8) (rest : Bytes) : undump (dumpByte c ++ rest) = c :: undump rest := by
  rcases dumpByte_shape c with h | ⟨h, h92, h37⟩ | ⟨e, _, h, he, hc⟩ | ⟨rfl, h⟩ <;> rw [h]
  · exact (undump_hex _ _ rest).trans (by rw [hex_roundtrip])
  · exact undump_plain c rest h92 h37
  · exact (undump_esc e rest he).trans (by rw [hc])
  · exact undump_pct rest

/-- **every byte string reads back**: decoding the body of its brief rendering gives the
    string itself -/
theorem brief_string_roundtrip (s : Bytes) : undump (s.flatMap dumpByte) = s := by
  induction s with
  | nil => rfl
  | cons c cs ih => rw [List.flatMap_cons, dumpByte_decodes, ih]

/-- hence different strings never print alike -/
theorem brief_string_injective (a b : Bytes) (h : dumpCharp a = dumpCharp b) : a = b :=
  Function.LeftInverse.injective brief_string_roundtrip (by simpa [dumpCharp] using h)

theorem hexDigit_ne_quote : ∀ n < 16, hexDigit n ≠ 34 := by decide

theorem quote_mem_dumpByte (c : UInt8) (h : 34 ∈ dumpByte c) : c = 34 := by
  have hc := c.toNat_lt
  -- the four shapes; in `%%` there is no quote at all, which `simp` sees
  rcases dumpByte_shape c with hd | ⟨hd, _⟩ | ⟨e, _, hd, _, he⟩ | ⟨rfl, hd⟩ <;> rw [hd] at h <;> simp at h
  · rcases h with h | h <;> exact absurd h.symm (hexDigit_ne_quote _ (by omega))
  · exact h.symm
  · subst h; exact he.symm

/-- in the escape of a byte a double quote stands only behind its backslash: the body contains no
    bare double quote, so the rendering is one literal -/
theorem brief_body_no_bare_quote (c : UInt8) : ∀ i, (dumpByte c).getD i 0 = 34 → i = 1 ∧ c = 34 := by
  intro i hi
  have hm : 34 ∈ dumpByte c := by
    rw [List.getD_eq_getElem?_getD, Option.getD_eq_iff] at hi
    exact hi.elim List.mem_of_getElem? (fun h => absurd h.2 (by decide))
  obtain rfl := quote_mem_dumpByte c hm
  -- `dumpByte 34` is `[92, 34]`
  match i with
  | 0 => exact absurd hi (by decide)
  | 1 => exact ⟨rfl, rfl⟩
  | i + 2 => exact absurd (show (0 : UInt8) = 34 from hi) (by decide)

end ZwVerif.C20
