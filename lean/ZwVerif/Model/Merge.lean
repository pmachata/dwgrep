/-
  The ALT mechanism of the pull engine as a machine (op.cc: op_merge::next, op_tine::next, and the
  pull loop of a branch), relationally — one constructor per path through the C++ — so that no
  fuel is needed.  A branch is abstracted to what it yields for one incoming stack (`fs i s`);
  what is modelled exactly is the shared state: the file of per-branch copies (`m_file`), the
  round-robin index (`m_idx`), the `m_done` flag with its reset (the F1 repair), and who pulls
  the upstream when.

  Core Lean only.
-/
namespace ZwVerif.Merge

def upd {β : Type} (f : Nat → β) (i : Nat) (v : β) : Nat → β := fun j => if j = i then v else f j

@[simp] theorem upd_same {β : Type} (f : Nat → β) (i : Nat) (v : β) : upd f i v i = v := by simp [upd]
theorem upd_other {β : Type} {f : Nat → β} {i j : Nat} {v : β} (h : j ≠ i) : upd f i v j = f j := by simp [upd, h]

/-- the state of one `op_merge` (in the state buffer) plus what its branches have computed but not
    yet yielded and what the upstream will still yield -/
structure St (α : Type) where
  up : List α                 -- the upstream, as the list of stacks it will yield
  file : Nat → Option α       -- m_file: one copy of the current upstream stack per branch
  idx : Nat                   -- m_idx
  done : Bool                 -- m_done
  pend : Nat → List α         -- per branch: results for the stack it took that are still to come

/-- `n` branches; branch `i` yields `fs i s` for the incoming stack `s` -/
structure Cfg (α : Type) where
  n : Nat
  fs : Nat → α → List α

variable {α : Type}

def AllNone (n : Nat) (file : Nat → Option α) : Prop := ∀ i, i < n → file i = none

/-- `op_tine::next` of branch `i` -/
inductive Tine (c : Cfg α) (i : Nat) : St α → Option α → St α → Prop
  /-- `if (mst.m_done) return nullptr;` -/
  | isDone {st : St α} : st.done = true → Tine c i st none st
  /-- all copies taken and the upstream has another stack: copy it for every branch, hand out ours -/
  | fill {st : St α} {s : α} {rest : List α} : st.done = false → AllNone c.n st.file → st.up = s :: rest →
      Tine c i st (some s) { st with up := rest, file := upd (fun _ => some s) i none }
  /-- all copies taken and the upstream is dry: `m_done = true` -/
  | dry {st : St α} : st.done = false → AllNone c.n st.file → st.up = [] →
      Tine c i st none { st with done := true }
  /-- some copy is still there: `std::move (m_file[m_branch_id])` — ours, or nothing if we had it -/
  | take {st : St α} : st.done = false → ¬ AllNone c.n st.file →
      Tine c i st (st.file i) { st with file := upd st.file i none }

/-- `next` of branch `i`: yield what is pending, else pull the tine and go on with what it gives -/
inductive Branch (c : Cfg α) (i : Nat) : St α → Option α → St α → Prop
  | yield {st : St α} {x : α} {xs : List α} : st.pend i = x :: xs →
      Branch c i st (some x) { st with pend := upd st.pend i xs }
  | dry {st st' : St α} : st.pend i = [] → Tine c i st none st' → Branch c i st none st'
  | pull {st st' st'' : St α} {s : α} {r : Option α} : st.pend i = [] → Tine c i st (some s) st' →
      Branch c i { st' with pend := upd st'.pend i (c.fs i s) } r st'' → Branch c i st r st''

/-- `op_merge::next` -/
inductive Merge (c : Cfg α) : St α → Option α → St α → Prop
  /-- `if (st.m_done) return nullptr;` -/
  | wasDone {st : St α} : st.done = true → Merge c st none st
  /-- the current branch yields -/
  | got {st st' : St α} {x : α} : st.done = false → Branch c st.idx st (some x) st' → Merge c st (some x) st'
  /-- the current branch is dry: `if (++m_idx == size) m_idx = 0;` and round again -/
  | advance {st st' st'' : St α} {r : Option α} : st.done = false → Branch c st.idx st none st' → st'.done = false →
      Merge c { st' with idx := (st.idx + 1) % c.n } r st'' → Merge c st r st''
  /-- … and the upstream is drained: report it, and start from a clean slate next time -/
  | drained {st st' : St α} : st.done = false → Branch c st.idx st none st' → st'.done = true →
      Merge c st none { st' with done := false, idx := 0 }

/-- pull until the merge reports exhaustion -/
inductive Drain (c : Cfg α) : St α → List α → St α → Prop
  | nil {st st' : St α} : Merge c st none st' → Drain c st [] st'
  | cons {st st' st'' : St α} {x : α} {xs : List α} : Merge c st (some x) st' → Drain c st' xs st'' → Drain c st (x :: xs) st''

/-! ### what it should compute -/

/-- one upstream stack through all branches, starting at branch `k`, round the table -/
def round (c : Cfg α) (k : Nat) (s : α) : Nat → List α        -- branches still to serve
  | 0 => []
  | m + 1 => c.fs (k % c.n) s ++ round c (k + 1) s m

/-- the whole stream: the branch that served last pulls the next stack and serves it first -/
def spec (c : Cfg α) : Nat → List α → List α
  | _, [] => []
  | k, s :: rest => round c k s c.n ++ spec c ((k + c.n - 1) % c.n) rest

/-- a fresh (or reset) merge in front of the upstream `up` -/
def init (up : List α) : St α := { up := up, file := fun _ => none, idx := 0, done := false, pend := fun _ => [] }

end ZwVerif.Merge
